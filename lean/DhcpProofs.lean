import DhcpProofs.Facts.C03Observe
import DhcpProofs.Facts.Client
import DhcpProofs.Facts.Label
import DhcpProofs.Facts.LabelCap
import DhcpProofs.Facts.Lease
import DhcpProofs.Facts.Ownership
import DhcpProofs.Facts.Raw
import DhcpProofs.Facts.ReadOnly
import DhcpProofs.Facts.Server
import DhcpProofs.Facts.V4Acc
import DhcpProofs.Facts.V4Build
import DhcpProofs.Facts.V4Codec
import DhcpProofs.Facts.V6Build
import DhcpProofs.Facts.V6Table
import DhcpProofs.Lemmas.Basic
import DhcpProofs.Lemmas.C03Decoded
import DhcpProofs.Lemmas.C03Observe4
import DhcpProofs.Lemmas.C03Observe6
import DhcpProofs.Lemmas.C03Relay
import DhcpProofs.Lemmas.C03Strings
import DhcpProofs.Lemmas.ClientBytes
import DhcpProofs.Lemmas.ClientLTS
import DhcpProofs.Lemmas.ClientLTSHist
import DhcpProofs.Lemmas.ClientLTSProgress
import DhcpProofs.Lemmas.ClientLTSRank
import DhcpProofs.Lemmas.ClientRefine
import DhcpProofs.Lemmas.ClientTimed
import DhcpProofs.Lemmas.Cost4
import DhcpProofs.Lemmas.Cost6
import DhcpProofs.Lemmas.Label
import DhcpProofs.Lemmas.LabelApi
import DhcpProofs.Lemmas.LabelEnc
import DhcpProofs.Lemmas.LabelSize
import DhcpProofs.Lemmas.LabelSound
import DhcpProofs.Lemmas.LabelSpec
import DhcpProofs.Lemmas.Lease
import DhcpProofs.Lemmas.Lease6
import DhcpProofs.Lemmas.Ownership
import DhcpProofs.Lemmas.RawArith
import DhcpProofs.Lemmas.RawChecksum
import DhcpProofs.Lemmas.RawOptions
import DhcpProofs.Lemmas.RawRead
import DhcpProofs.Lemmas.RawWrite
import DhcpProofs.Lemmas.ReadOnly
import DhcpProofs.Lemmas.Server
import DhcpProofs.Lemmas.V4Build
import DhcpProofs.Lemmas.V4BuildProps
import DhcpProofs.Lemmas.V4Dec
import DhcpProofs.Lemmas.V4Fix
import DhcpProofs.Lemmas.V4MapOrder
import DhcpProofs.Lemmas.V4Marshal
import DhcpProofs.Lemmas.V4Opts
import DhcpProofs.Lemmas.V4Parse
import DhcpProofs.Lemmas.V4RoundTrip
import DhcpProofs.Lemmas.V4Val
import DhcpProofs.Lemmas.V4ValAcc
import DhcpProofs.Lemmas.V4ValDecoded
import DhcpProofs.Lemmas.V4ValLabel
import DhcpProofs.Lemmas.V4ValLoops
import DhcpProofs.Lemmas.V4ValRelay
import DhcpProofs.Lemmas.V4ValSetGet
import DhcpProofs.Lemmas.V6Basic
import DhcpProofs.Lemmas.V6Build
import DhcpProofs.Lemmas.V6BuildChain
import DhcpProofs.Lemmas.V6BuildDecoded
import DhcpProofs.Lemmas.V6BuildIndex
import DhcpProofs.Lemmas.V6BuildMsg
import DhcpProofs.Lemmas.V6BuildReply
import DhcpProofs.Lemmas.V6EncGrammar
import DhcpProofs.Lemmas.V6Fix
import DhcpProofs.Lemmas.V6FixEx
import DhcpProofs.Lemmas.V6Frame
import DhcpProofs.Lemmas.V6Fresh
import DhcpProofs.Lemmas.V6Inv
import DhcpProofs.Lemmas.V6Leaf
import DhcpProofs.Lemmas.V6LeafIff
import DhcpProofs.Lemmas.V6LeafInv
import DhcpProofs.Lemmas.V6NoPanic
import DhcpProofs.Lemmas.V6Parse
import DhcpProofs.Lemmas.V6Simple
import DhcpProofs.Lemmas.V6Termination
import DhcpProofs.Props.C01
import DhcpProofs.Props.C02
import DhcpProofs.Props.C03
import DhcpProofs.Props.C04
import DhcpProofs.Props.C05
import DhcpProofs.Props.C06
import DhcpProofs.Props.C07
import DhcpProofs.Props.C08
import DhcpProofs.Props.C09
import DhcpProofs.Props.C10
import DhcpProofs.Props.C11
import DhcpProofs.Props.C12
import DhcpProofs.Props.C13
import DhcpProofs.Props.C14
import DhcpProofs.Props.C15
import DhcpProofs.Props.C16
import DhcpProofs.Props.C17
import DhcpProofs.Props.C18
import DhcpProofs.Props.C19
import DhcpProofs.Props.C20
