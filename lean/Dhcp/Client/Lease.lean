import Dhcp.V4.Build
import Dhcp.V4.Values
import Dhcp.V6.Build
/-
  Model of the lease-acquisition exchange logic of the two clients
  (C13):

    /repo/dhcpv4/nclient4/client.go   IsMessageType, IsCorrectServer, IsAll,
                                      DiscoverOffer, Request, Inform, ErrNak,
                                      RequestFromOffer
    /repo/dhcpv4/nclient4/lease.go    Lease, Release, Renew
    /repo/dhcpv6/nclient6/client.go   IsMessageType, RapidSolicit, Solicit, Request

  THE ABSTRACT CALL.  Every exchange function is a straight-line composition
  of a packet builder (C15 / C16 models), ONE OR TWO `SendAndRead` calls and a
  case split on the answer.  `SendAndRead(ctx, dest, p, match)` is modelled by

      sendAndRead stream match = stream.find? match

  where `stream` is *what the routed channel delivers to this call*: the
  datagrams, in arrival order, that the receive loop hands to the call's
  registration while it is waiting — already decoded, already filtered by
  transaction id, BOOTREPLY opcode and client hardware address.  That the
  real call returns exactly the first packet of that sub-stream which `match`
  accepts, and the no-response error when there is none before the retry
  budget ends, is what C10 (`C10_own`, `C10_first`: routing and "first
  acceptable in arrival order"), C11 (the call completes) and C12 (how often
  and when the request is retransmitted) establish.  The connection is a
  theorem: Dhcp/Client/Refine.lean turns a routed stream with arrival instants
  into an observation sequence of C11/C12's timed machine, and
  `C13_call_refines_timed` (Props/C13.lean) proves that the machine returns
  exactly `stream.find? match`, at that packet's arrival instant, and the
  no-response error at the budget when there is none.
  `none` is `ErrNoResponse` (any error of `SendAndRead`: the exchange functions
  only wrap it).  A context that ends or a Close are C11's subject.

  Transaction ids the Go code draws at random (`dhcpv4.New`,
  `dhcpv6.NewMessage`) are parameters, so is `GetTime()` in `NewSolicit`.

  As everywhere in the v4 model a nil and an empty non-nil option value are
  identified (`Opts`); the two typed accessors used here (`MessageType`,
  `ServerIdentifier`) do not distinguish them (`messageType_eq`, `serverIdentifier_eq` in
  DhcpProofs/Lemmas/Lease.lean).
-/
namespace Dhcp.Client.Lease
open Dhcp Dhcp.V4

/-! ### DHCPv4: the abstract call and the matchers -/

/-- `nclient4.Matcher` -/
abbrev Matcher := Pkt4 → Bool

/-- `SendAndRead` over the routed stream of one call (see the header). -/
def sendAndRead (stream : List Pkt4) (mtch : Matcher) : Option Pkt4 := stream.find? mtch

/-- the option map as the typed accessors see it: an empty value is the nil
slice (what `FromBytes` produces), any other value itself -/
def toG (o : Opts) : GOpts := ⟨fun c => (o.f c).map goBuf⟩

/-- `p.MessageType()`: option 53 through the typed accessor (0 = none when the
option is absent or not exactly one byte) -/
def messageType (p : Pkt4) : UInt8 := Acc.messageType (toG p.opts)

/-- `p.ServerIdentifier()`: option 54 through `GetIP`: nil unless the value is
exactly four bytes -/
def serverIdentifier (p : Pkt4) : IP := Acc.serverIdentifier (toG p.opts)

/-- `v4InV6Prefix` -/
def v4InV6Prefix : Bytes := zeros 10 ++ [255, 255]

/-- `len(ip)` of a `net.IP` (nil has length 0) -/
def ipLen (ip : IP) : Nat := (ip.getD []).length

/-- `net.IP.Equal`: equal lengths compare bytewise (so nil, and empty, equal
nil); a 4-byte address equals its 16-byte IPv4-mapped form; anything else is
different. -/
def ipEqual (ip x : IP) : Bool :=
  let a := ip.getD []
  let b := x.getD []
  if a.length = b.length then a == b
  else if a.length = 4 ∧ b.length = 16 then b.take 12 == v4InV6Prefix && a == b.drop 12
  else if a.length = 16 ∧ b.length = 4 then a.take 12 == v4InV6Prefix && a.drop 12 == b
  else false

/-- `IsMessageType(t, tt...)` -/
def isMessageType (t : UInt8) (tt : List UInt8) : Matcher :=
  fun p => messageType p == t || tt.any (fun mt => messageType p == mt)

/-- `IsCorrectServer(s)`: `p.ServerIdentifier().Equal(s)` -/
def isCorrectServer (s : IP) : Matcher := fun p => ipEqual (serverIdentifier p) s

/-- `IsAll(ms...)` -/
def isAll (ms : List Matcher) : Matcher := fun p => ms.all (fun m => m p)

/-! ### DHCPv4: constants of nclient4 (Facts/Lease.lean) -/

/-- `nclient4.MaxMessageSize` -/
def maxMessageSize : Nat := 1500
/-- `nclient4.ServerPort` -/
def serverPort : Nat := 67
/-- `dhcpv4.WithOption(dhcpv4.OptMaxMessageSize(MaxMessageSize))`, the modifier
the client puts in front of the caller's -/
def mmsMod : Modifier := .withOption (.maxMessageSize maxMessageSize)

/-- `DefaultServers`: `net.IPv4bcast` (16-byte form), port 67 -/
def defaultServers : IP × Nat := (some (zeros 10 ++ [255, 255, 255, 255, 255, 255]), serverPort)

/-! ### DHCPv4: exchanges

`sent` lists the datagrams handed to `SendAndRead` / `WriteTo`, one per call
(retransmissions of the same datagram are C12's subject). -/

structure Run (ρ : Type) where
  sent : List Pkt4
  res : ρ

/-- `nclient4.Lease` (without the wall-clock `CreationTime`) -/
structure Lease where
  offer : Pkt4
  ack : Pkt4

/-- `(*Lease, error)` of `RequestFromOffer` / `Renew` / `Request` -/
inductive LeaseResult where
  /-- `&Lease{Offer: offer, ACK: response}` -/
  | lease (offer ack : Pkt4)
  /-- `&ErrNak{Offer: offer, Nak: response}` -/
  | errNak (offer nak : Pkt4)
  /-- the error of `SendAndRead` (wrapped) -/
  | errNoResponse

/-- the DISCOVER of `DiscoverOffer`:
`NewDiscovery(hw, PrependModifiers(modifiers, WithOption(OptMaxMessageSize(1500)))...)` -/
def discoverPkt (xid hw : Bytes) (user : List Modifier) : Pkt4 :=
  newDiscovery xid hw (prependModifiers user [mmsMod])

/-- `IsMessageType(MessageTypeOffer)` -/
def offerMatcher : Matcher := isMessageType mtOffer []

/-- `DiscoverOffer(ctx, modifiers...)` -/
def discoverOffer (xid hw : Bytes) (user : List Modifier) (stream : List Pkt4) : Run (Option Pkt4) :=
  ⟨[discoverPkt xid hw user], sendAndRead stream offerMatcher⟩

/-- the REQUEST of `RequestFromOffer`:
`NewRequestFromOffer(offer, PrependModifiers(modifiers, WithOption(OptMaxMessageSize(1500)))...)` -/
def requestPkt (xid : Bytes) (offer : Pkt4) (user : List Modifier) : Pkt4 :=
  newRequestFromOffer xid offer (prependModifiers user [mmsMod])

/-- the matcher of `RequestFromOffer` and `Renew`:
`IsAll(IsCorrectServer(offer.ServerIdentifier()), IsMessageType(Ack, Nak))` -/
def ackNakMatcher (offer : Pkt4) : Matcher :=
  isAll [isCorrectServer (serverIdentifier offer), isMessageType mtAck [mtNak]]

/-- what `RequestFromOffer` / `Renew` make of the answer -/
def completion (offer : Pkt4) (answer : Option Pkt4) : LeaseResult :=
  match answer with
  | none => .errNoResponse
  | some r => if messageType r == mtNak then .errNak offer r else .lease offer r

/-- `RequestFromOffer(ctx, offer, modifiers...)` -/
def requestFromOffer (xid : Bytes) (offer : Pkt4) (user : List Modifier) (stream : List Pkt4) :
    Run LeaseResult :=
  ⟨[requestPkt xid offer user], completion offer (sendAndRead stream (ackNakMatcher offer))⟩

/-- `Request(ctx, modifiers...)`: `DiscoverOffer` then `RequestFromOffer` with
THE SAME caller modifiers; `s1` / `s2` are the streams routed to the first /
second call, `xid2` the id `New` draws for the REQUEST (then overwritten by
`WithReply(offer)`). -/
def request (xid xid2 hw : Bytes) (user : List Modifier) (s1 s2 : List Pkt4) : Run LeaseResult :=
  let d := discoverOffer xid hw user s1
  match d.res with
  | none => ⟨d.sent, .errNoResponse⟩
  | some offer =>
    let r := requestFromOffer xid2 offer user s2
    ⟨d.sent ++ r.sent, r.res⟩

/-- the REQUEST of `Renew`:
`NewRenewFromAck(lease.ACK, PrependModifiers(modifiers, WithOption(OptMaxMessageSize(1500)))...)` -/
def renewPkt (xid : Bytes) (l : Lease) (user : List Modifier) : Pkt4 :=
  newRenewFromAck xid l.ack (prependModifiers user [mmsMod])

/-- `Renew(ctx, lease, modifiers...)` for a non-nil lease with non-nil Offer and
ACK: the matcher uses the server identifier of the lease's OFFER, a NAK is
reported with that offer, an ACK replaces the lease's ACK. -/
def renew (xid : Bytes) (l : Lease) (user : List Modifier) (stream : List Pkt4) : Run LeaseResult :=
  ⟨[renewPkt xid l user], completion l.offer (sendAndRead stream (ackNakMatcher l.offer))⟩

/-- the RELEASE of `Release`: `NewReleaseFromACK(lease.ACK, modifiers...)` (no
maximum-message-size option here) -/
def releasePkt (xid : Bytes) (l : Lease) (user : List Modifier) : Pkt4 :=
  newReleaseFromAck xid l.ack user

/-- `net.IP(lease.ACK.Options.Get(OptionServerIdentifier))`: the RAW option
value (any length), nil when absent or empty -/
def releaseDestIP (l : Lease) : IP :=
  match l.ack.opts.get optServerID with
  | some v => if v.isEmpty then none else some v
  | none => none

/-- `Release(lease, modifiers...)` for a non-nil lease: ONE `WriteTo`, no read:
the datagram and its destination `&net.UDPAddr{IP: …, Port: ServerPort}` -/
def release (xid : Bytes) (l : Lease) (user : List Modifier) : List (Pkt4 × (IP × Nat)) :=
  [(releasePkt xid l user, (releaseDestIP l, serverPort))]

/-- `Inform(ctx, localIP, modifiers...)`: `NewInform(hw, localIP, modifiers...)`,
answer = first ACK (no server check, no maximum-message-size option) -/
def inform (xid hw : Bytes) (localIP : IP) (user : List Modifier) (stream : List Pkt4) :
    Run (Option Pkt4) :=
  ⟨[newInform xid hw localIP user], sendAndRead stream (isMessageType mtAck [])⟩

/-! ### DHCPv6 -/

open Dhcp.V6 in
/-- `nclient6.Matcher`; `none` is the nil matcher -/
abbrev Matcher6 := Option (Msg6 → Bool)

open Dhcp.V6 in
/-- `SendAndRead` of nclient6 over the stream routed to one call (decoded
`*Message`s carrying the call's transaction id, in arrival order):
`match == nil || match(packet)` -/
def sendAndRead6 (stream : List Msg6) (mtch : Matcher6) : Option Msg6 :=
  match mtch with
  | none => stream.head?
  | some m => stream.find? m

open Dhcp.V6 in
/-- nclient6 `IsMessageType(t, tt...)`: on the header's message type -/
def isMessageType6 (t : UInt8) (tt : List UInt8) : Msg6 → Bool :=
  fun p => p.typ == t || tt.any (fun mt => p.typ == mt)

open Dhcp.V6 in
/-- result of a v6 exchange -/
inductive Result6 where
  /-- `(msg, nil)` -/
  | msg (m : Msg6)
  /-- error of `SendAndRead` -/
  | errNoResponse
  /-- error returned by the builder (`NewSolicit` / `NewRequestFromAdvertise`):
  nothing is sent by that call -/
  | errBuild
  /-- the builder panicked (unchecked type assertion on a hand-built option) -/
  | panic

open Dhcp.V6 in
structure Run6 where
  sent : List Msg6
  res : Result6

open Dhcp.V6 in
/-- what a call makes of a built message and its routed stream -/
def call6 (built : Res Msg6) (stream : List Msg6) (mtch : Matcher6) : Run6 :=
  match built with
  | .ok m =>
    ⟨[m], match sendAndRead6 stream mtch with
          | some r => .msg r
          | none => .errNoResponse⟩
  | .err => ⟨[], .errBuild⟩
  | .panic => ⟨[], .panic⟩

open Dhcp.V6 in
/-- `Solicit(ctx, modifiers...)`: answer = first ADVERTISE -/
def solicit (xid : Bytes) (time : Nat) (hw : Bytes) (mods : List Mod6) (stream : List Msg6) : Run6 :=
  call6 (newSolicit xid time hw mods) stream (some (isMessageType6 mtAdvertise []))

open Dhcp.V6 in
/-- nclient6 `Request(ctx, advertise, modifiers...)`: answer = first REPLY
(`IsMessageType(MessageTypeReply)`; before /repo commit 80184de the matcher was
nil and the first routed message of any type was returned) -/
def request6 (xid : Bytes) (adv : Msg6) (mods : List Mod6) (stream : List Msg6) : Run6 :=
  call6 (newRequestFromAdvertise xid adv mods) stream (some (isMessageType6 mtReply []))

open Dhcp.V6 in
/-- `RapidSolicit(ctx, modifiers...)`: SOLICIT built with
`append(modifiers, WithRapidCommit)`; first REPLY or ADVERTISE; a REPLY is
returned as it is (whether or not it carries a rapid-commit option), an
ADVERTISE goes to `Request` with the caller's modifiers (without
`WithRapidCommit`). -/
def rapidSolicit (xid xid2 : Bytes) (time : Nat) (hw : Bytes) (mods : List Mod6)
    (s1 s2 : List Msg6) : Run6 :=
  let a := call6 (newSolicit xid time hw (mods ++ [.rapidCommit])) s1
    (some (isMessageType6 mtReply [mtAdvertise]))
  match a.res with
  | .msg m =>
    if m.typ == mtReply then a
    else if m.typ == mtAdvertise then
      let r := request6 xid2 m mods s2
      ⟨a.sent ++ r.sent, r.res⟩
    else ⟨a.sent, .errBuild⟩   -- `default: "cannot happen"` (unreachable: see C13_v6_rapid)
  | _ => a

end Dhcp.Client.Lease
