/-
  Timed sequential model of ONE `SendAndRead` call of nclient4 / nclient6
  (identical code in both: /repo/dhcpv4/nclient4/client.go:610-669,
  /repo/dhcpv6/nclient6/client.go:444-503) under virtual time.

  Go code being modelled (current tree, after the three client fixes):

      func (c *Client) retryFn(fn func(timeout time.Duration) error) error {
          timeout := c.timeout
          for i := 0; i < c.retry || c.retry < 0; i++ {
              switch err := fn(timeout); err {
              case nil:                 return nil
              case errDeadlineExceeded: timeout *= 2
              default:                  return err
              }
          }
          return errDeadlineExceeded          // SendAndRead maps it to ErrNoResponse
      }
      fn = func(timeout) error {
          ch, rem, err := c.send(dest, p)     // register xid, WriteTo(p.ToBytes(), dest)
          defer rem()
          deadline := time.After(timeout)     // armed ONCE per try
          for { select {
              case <-c.done:     return ErrNoResponse
              case <-deadline:   return errDeadlineExceeded
              case <-ctx.Done(): return ctx.Err()
              case packet := <-ch: if match == nil || match(packet) { response = packet; return nil }
          } }
      }

  Two layers.

  * Layer 1, `runObs`: a deterministic machine fed with the sequence of stimuli
    *as the calling goroutine observes them* (`Obs`): a same-xid datagram the
    matcher rejects / accepts, the context ending, the client being closed,
    or something the caller never sees (`irr`: datagram dropped by the receive
    loop, or lost).  Between two observations the per-try deadlines that fall
    strictly before the observation's instant fire; a deadline falling exactly
    ON that instant fires first iff the observation is flagged `afterTimer`.
    All property theorems (C11 timing part, C12) are statements about `runObs`
    for EVERY observation sequence, so they cover every way of resolving a
    coincidence.

  * Layer 2, `runCall`: what a *script* of time-stamped external events
    (datagram injected / ctx cancelled / Close called, each either applied
    after the system is quiescent — `sync` — or right away) can make the
    caller observe.  Where several `select` cases can be ready at the same
    virtual instant the Go runtime picks one at random, so the answer is a SET
    of results: `runCall` returns the list of all of them (see `groupViews`
    for exactly which orders are considered possible).  The correspondence
    stream checks that the real client's result is a member.

  Time is `Int` nanoseconds from the start of the call; `time.Duration`
  overflow of `timeout *= 2` is not modelled (explicit hypothesis
  `NoOverflow` in the theorems that talk about the code's schedule).
-/
namespace Dhcp.Client.Timed

/-- What the calling goroutine can observe in its `select`. -/
inductive Kind where
  | irr      -- nothing reaches the caller (dropped by the receive loop / lost)
  | rej      -- `<-ch` yields a packet, `match` returns false
  | acc      -- `<-ch` yields a packet, `match == nil || match(packet)`
  | ctx      -- `<-ctx.Done()`
  | closed   -- `<-c.done`
  deriving DecidableEq, Repr, Inhabited

structure Obs where
  t : Int
  kind : Kind
  /-- identifies the datagram (index of the script event that injected it) -/
  tag : Nat := 0
  /-- a per-try deadline falling on exactly `t` has already fired -/
  afterTimer : Bool := true
  deriving DecidableEq, Repr, Inhabited

inductive Outcome where
  | resp (tag : Nat)   -- (response, nil)
  | noResp             -- ErrNoResponse
  | ctxErr             -- ctx.Err()
  | writeErr           -- "error writing packet to connection" (WriteTo failed, client not closed)
  deriving DecidableEq, Repr, Inhabited

/-- State of a call that is parked in the `select` of try `k`. -/
structure Wait where
  k : Nat            -- 0-based try index (`i` of retryFn)
  start : Int        -- instant at which this try transmitted
  timeout : Int      -- this try's timeout (`timeout` of retryFn)
  txs : List Int     -- instants of all transmissions so far, oldest first
  clk : Int          -- script clock: instant of the last observation processed
  deriving DecidableEq, Repr, Inhabited

inductive CState where
  | waiting (w : Wait)
  | done (txs : List Int) (t : Int) (o : Outcome)
  deriving DecidableEq, Repr, Inhabited

/-- `timeout *= 2` in retryFn (fact-checked against the source, Facts/Client.lean). -/
def backoffMul : Int := 2

/-- Defaults of both clients (not used by the model, whose `T`, `n` are
parameters; fact-checked so that the grid of the streams contains them). -/
def defaultTimeoutNs : Nat := 5000000000
def defaultRetries : Nat := 3
def defaultBufferCap : Nat := 5

/-- Call entry at instant 0: `i := 0; i < retry || retry < 0` then `send`. -/
def begin (T n : Int) : CState :=
  if n = 0 then .done [] 0 .noResp
  else .waiting { k := 0, start := 0, timeout := T, txs := [0], clk := 0 }

/-- The deadline of the current try fires: `return errDeadlineExceeded`,
`rem()`, `timeout *= 2`, `i++`, loop condition, next `send` (all at the same
virtual instant). -/
def fire (n : Int) (w : Wait) : CState :=
  let d := w.start + w.timeout
  if n < 0 ∨ ((w.k : Int) + 1 < n) then
    .waiting { k := w.k + 1, start := d, timeout := backoffMul * w.timeout, txs := w.txs ++ [d], clk := w.clk }
  else .done w.txs d .noResp

/-- Let virtual time run up to `t`: every deadline strictly before `t` fires,
and one falling exactly on `t` too when `incl`.  `fuel` bounds the number of
deadlines (see `advanceFuel`; `advance_spec` in DhcpProofs/Lemmas/ClientTimed.lean). -/
def advance (n : Int) (t : Int) (incl : Bool) : Nat → CState → CState
  | 0, st => st
  | _, .done txs t' o => .done txs t' o
  | fuel + 1, .waiting w =>
    let d := w.start + w.timeout
    if d < t ∨ (incl = true ∧ d = t) then advance n t incl fuel (fire n w) else .waiting w

/-- Enough fuel to reach `t` from a try that started at `start`, when every
timeout is at least 1 ns. -/
def advanceFuel (start t : Int) : Nat := (t - start).toNat + 1

/-- One observation. Its effective instant is `max o.t clk` (the script
sleeps until `o.t` only if that is in the future). -/
def stepObs (n : Int) (st : CState) (o : Obs) : CState :=
  match st with
  | .done txs t out => .done txs t out
  | .waiting w =>
    let t := max o.t w.clk
    match advance n t o.afterTimer (advanceFuel w.start t) (.waiting w) with
    | .done txs t' out => .done txs t' out
    | .waiting w' =>
      match o.kind with
      | .irr | .rej => .waiting { w' with clk := t }
      | .acc => .done w'.txs t (.resp o.tag)
      | .ctx => .done w'.txs t .ctxErr
      | .closed => .done w'.txs t .noResp

structure Result where
  txs : List Int
  /-- `none`: the call is still waiting at the horizon -/
  ret : Option (Int × Outcome)
  deriving DecidableEq, Repr, Inhabited

/-- Observe up to the horizon `H` (deadlines falling on `H` included). -/
def finish (n : Int) (H : Int) (st : CState) : Result :=
  match st with
  | .done txs t o => ⟨txs, some (t, o)⟩
  | .waiting w =>
    match advance n H true (advanceFuel w.start H) (.waiting w) with
    | .done txs t o => ⟨txs, some (t, o)⟩
    | .waiting w' => ⟨w'.txs, none⟩

def runFrom (n : Int) (st : CState) (obs : List Obs) : CState := obs.foldl (stepObs n) st

/-- Layer 1: the call's result for a given sequence of caller observations. -/
def runObs (T n : Int) (obs : List Obs) (H : Int) : Result :=
  finish n H (runFrom n (begin T n) obs)

/-- The schedule of the property: transmission `k` is at `T·(2^k − 1)`. -/
def sched (T : Int) (m : Nat) : List Int := (List.range m).map (fun k => T * (2 ^ k - 1))

/-- `timeout *= 2` stays inside int64 for the tries that are made. -/
def NoOverflow (T : Int) (tries : Nat) : Prop := T * 2 ^ tries < 2 ^ 63

/-! ### Layer 2: scripts of external events -/

inductive EvKind where
  | irr | rej | acc | cancel | close
  deriving DecidableEq, Repr, Inhabited

structure Event where
  t : Int
  kind : EvKind
  /-- the harness waits for quiescence (`synctest.Wait`) before applying it -/
  sync : Bool
  deriving DecidableEq, Repr, Inhabited

/-- All ways of inserting `x` into `l`. -/
def insertions {α} (x : α) : List α → List (List α)
  | [] => [[x]]
  | y :: ys => (x :: y :: ys) :: (insertions x ys).map (y :: ·)

/-- A group = the events applied at one virtual instant without waiting for
quiescence in between. `(tag, kind)` in script order. -/
abbrev Group := List (Nat × EvKind)

def isArrival : EvKind → Bool
  | .irr | .rej | .acc => true
  | _ => false

def obsKind : EvKind → Kind
  | .irr => .irr | .rej => .rej | .acc => .acc | .cancel => .ctx | .close => .closed

/-- Orders in which the caller may observe a group's stimuli: datagrams in
arrival order (one receive loop, FIFO channel); the context's end and Close at
any position relative to them (a `select` entered with several ready cases
picks any of them; a parked one is committed by whichever goroutine gets to
it first). -/
def mergeOrders (g : Group) : List Group :=
  let arr := g.filter (fun e => isArrival e.2)
  let withC := match g.find? (fun e => e.2 = .cancel) with
    | some c => insertions c arr
    | none => [arr]
  match g.find? (fun e => e.2 = .close) with
  | some x => withC.flatMap (insertions x)
  | none => withC

/-- Turn the first `j` arrivals of `l` into `irr` (lost: delivered to the
registration being torn down, or dropped between `cancel` and the next
`send`). -/
def lose : Nat → Group → Group
  | 0, l => l
  | _, [] => []
  | j + 1, (i, k) :: l => if isArrival k then (i, .irr) :: lose j l else (i, k) :: lose (j + 1) l

def countArrivals (l : Group) : Nat := (l.filter (fun e => isArrival e.2)).length

def toObs (t : Int) (after : Bool) (l : Group) : List Obs :=
  l.map (fun e => { t := t, kind := obsKind e.2, tag := e.1, afterTimer := after })

/-- Possible observation sequences for a group at instant `t`.
`race = false`: any deadline on `t` fired before the group (the harness
waited for quiescence after waking up).  `race = true`: the group's first
event was applied right after the script's sleep ended, concurrently with a
deadline falling on the same instant: the deadline may be observed at any
position `p`; stimuli before it are seen by the old try, and a prefix of the
datagrams after it may be lost in the hand-over to the next try. -/
def groupViews (t : Int) (race : Bool) (g : Group) : List (List Obs) :=
  let ms := mergeOrders g
  if race then
    ms.flatMap (fun m =>
      (List.range (m.length + 1)).flatMap (fun p =>
        let pre := m.take p
        let post := m.drop p
        (List.range (countArrivals post + 1)).map (fun j =>
          toObs t false pre ++ toObs t true (lose j post))))
  else ms.map (toObs t true)

/-- `a :: l` unless already present. -/
def addNew {α} [DecidableEq α] (a : α) (l : List α) : List α := if a ∈ l then l else a :: l

def dedup {α} [DecidableEq α] (l : List α) : List α := l.foldr addNew []

/-- Does a deadline fall exactly on `t` (once those before `t` have fired)? -/
def deadlineAt (n : Int) (st : CState) (t : Int) : Bool :=
  match st with
  | .waiting w =>
    match advance n t false (advanceFuel w.start t) (.waiting w) with
    | .waiting w' => w'.start + w'.timeout = t
    | _ => false
  | _ => false

/-- All states reachable through one group. -/
def stepGroup (n : Int) (t : Int) (race : Bool) (g : Group) (sts : List CState) : List CState :=
  dedup (sts.flatMap (fun st =>
    (groupViews t (race && deadlineAt n st t) g).map (fun v => runFrom n st v)))

/-- Split a script into groups: a new group starts at an event that is `sync`
or lies in the script's future (the sleep lets everything settle). Returns
`(instant, race, group)` in order.  `race` = the first event is not `sync`. -/
def groupsAux : Int → Nat → List Event → Option (Int × Bool × Group) → List (Int × Bool × Group)
  | _, _, [], cur => match cur with | some c => [c] | none => []
  | clk, i, e :: es, cur =>
    let fresh := e.sync || decide (e.t > clk)
    let t := max e.t clk
    match cur, fresh with
    | some (tg, r, g), false => groupsAux t (i + 1) es (some (tg, r, g ++ [(i, e.kind)]))
    | some c, true => c :: groupsAux t (i + 1) es (some (t, !e.sync, [(i, e.kind)]))
    | none, _ => groupsAux t (i + 1) es (some (t, !e.sync, [(i, e.kind)]))

def groups (evs : List Event) : List (Int × Bool × Group) := groupsAux 0 0 evs none

/-- Layer 2: the set (as a duplicate-free list) of results the script allows. -/
def runCall (T n : Int) (evs : List Event) (H : Int) : List Result :=
  let sts := (groups evs).foldl (fun sts (g : Int × Bool × Group) => stepGroup n g.1 g.2.1 g.2.2 sts) [begin T n]
  dedup (sts.map (finish n H))

/-- Write fault: the `k`-th `WriteTo` of the call (0-based) fails while the
client is open. `send` unregisters (`cancel()`) and returns the write error,
`retryFn` aborts on any error other than its own deadline error, so the call
returns at the instant of that write, `T·(2^k − 1)`, having completed `k`
transmissions. The run up to that instant is the fault-free one: a result in
which the `k`-th transmission takes place is cut there, any other is kept. -/
def applyWriteFault (T : Int) (k : Nat) (r : Result) : Result :=
  if k < r.txs.length then ⟨r.txs.take k, some (T * (2 ^ k - 1), .writeErr)⟩ else r

/-- Instant at which `Close` is called (it returns at the same instant). -/
def closeTime (evs : List Event) : Option Int :=
  let rec go (clk : Int) : List Event → Option Int
    | [] => none
    | e :: es => let t := max e.t clk; if e.kind = .close then some t else go t es
  go 0 evs

/-! ### What is transmitted: bytes and destination

`send()` of both clients ends in `c.conn.WriteTo(msg.ToBytes(), dest)`
(/repo/dhcpv4/nclient4/client.go:598, /repo/dhcpv6/nclient6/client.go:435) and
is entered once per try: the request is encoded AGAIN on every try, from the
value the caller's `*msg` holds at that moment, and written to the `dest`
argument of `SendAndRead`, which the loop never changes.

The machine below is the machine above with the transmission instants replaced
by transmission records.  The call is described by `Call`: an abstract
encoding function (`ToBytes`), the destination, and `reqAt k`, the value of the
request when try `k` (0-based) runs `send` — constant when the caller leaves
the request alone during the call, which is the property's domain; any other
function describes a caller that changes the message between tries.
`BState.erase` forgets bytes and destinations; `runObsB_erase`
(Lemmas/ClientBytes.lean) shows the erased machine IS the machine above, so
every theorem about instants carries over. -/

/-- One `conn.WriteTo(bytes, dest)` made by the call, at virtual instant `t`. -/
structure Tx (Dest : Type) where
  t : Int
  bytes : List UInt8
  dest : Dest
  deriving DecidableEq, Repr

/-- What `SendAndRead(ctx, dest, msg, match)` was given, as far as the bytes on
the wire go. -/
structure Call (Req Dest : Type) where
  /-- `(*DHCPv4).ToBytes` / `(*Message).ToBytes` -/
  enc : Req → List UInt8
  /-- the value `*msg` holds when try `k` calls `send` -/
  reqAt : Nat → Req
  /-- the `dest` argument -/
  dest : Dest

/-- the `WriteTo` of try `k`, made at instant `t` -/
def Call.tx {Req Dest} (c : Call Req Dest) (k : Nat) (t : Int) : Tx Dest :=
  ⟨t, c.enc (c.reqAt k), c.dest⟩

/-- `Wait` with the transmissions in full -/
structure WaitB (Dest : Type) where
  k : Nat
  start : Int
  timeout : Int
  sent : List (Tx Dest)
  clk : Int

inductive BState (Dest : Type) where
  | waiting (w : WaitB Dest)
  | done (sent : List (Tx Dest)) (t : Int) (o : Outcome)

def WaitB.erase {Dest} (w : WaitB Dest) : Wait :=
  { k := w.k, start := w.start, timeout := w.timeout, txs := w.sent.map (·.t), clk := w.clk }

def BState.erase {Dest} : BState Dest → CState
  | .waiting w => .waiting w.erase
  | .done sent t o => .done (sent.map (·.t)) t o

/-- `begin`: try 0 encodes the request as it is at call entry -/
def beginB {Req Dest} (c : Call Req Dest) (T n : Int) : BState Dest :=
  if n = 0 then .done [] 0 .noResp
  else .waiting { k := 0, start := 0, timeout := T, sent := [c.tx 0 0], clk := 0 }

/-- `fire`: the next try, `w.k + 1`, runs `send` again: `msg.ToBytes()` of the
request as it is THEN, to the same `dest` -/
def fireB {Req Dest} (c : Call Req Dest) (n : Int) (w : WaitB Dest) : BState Dest :=
  let d := w.start + w.timeout
  if n < 0 ∨ ((w.k : Int) + 1 < n) then
    .waiting { k := w.k + 1, start := d, timeout := backoffMul * w.timeout,
               sent := w.sent ++ [c.tx (w.k + 1) d], clk := w.clk }
  else .done w.sent d .noResp

def advanceB {Req Dest} (c : Call Req Dest) (n : Int) (t : Int) (incl : Bool) :
    Nat → BState Dest → BState Dest
  | 0, st => st
  | _, .done sent t' o => .done sent t' o
  | fuel + 1, .waiting w =>
    let d := w.start + w.timeout
    if d < t ∨ (incl = true ∧ d = t) then advanceB c n t incl fuel (fireB c n w) else .waiting w

def stepObsB {Req Dest} (c : Call Req Dest) (n : Int) (st : BState Dest) (o : Obs) : BState Dest :=
  match st with
  | .done sent t out => .done sent t out
  | .waiting w =>
    let t := max o.t w.clk
    match advanceB c n t o.afterTimer (advanceFuel w.start t) (.waiting w) with
    | .done sent t' out => .done sent t' out
    | .waiting w' =>
      match o.kind with
      | .irr | .rej => .waiting { w' with clk := t }
      | .acc => .done w'.sent t (.resp o.tag)
      | .ctx => .done w'.sent t .ctxErr
      | .closed => .done w'.sent t .noResp

structure ResultB (Dest : Type) where
  sent : List (Tx Dest)
  ret : Option (Int × Outcome)

def ResultB.erase {Dest} (r : ResultB Dest) : Result := ⟨r.sent.map (·.t), r.ret⟩

def finishB {Req Dest} (c : Call Req Dest) (n : Int) (H : Int) (st : BState Dest) : ResultB Dest :=
  match st with
  | .done sent t o => ⟨sent, some (t, o)⟩
  | .waiting w =>
    match advanceB c n H true (advanceFuel w.start H) (.waiting w) with
    | .done sent t o => ⟨sent, some (t, o)⟩
    | .waiting w' => ⟨w'.sent, none⟩

def runFromB {Req Dest} (c : Call Req Dest) (n : Int) (st : BState Dest) (obs : List Obs) : BState Dest :=
  obs.foldl (stepObsB c n) st

/-- Layer 1 with bytes: every `WriteTo` of the call (instant, bytes,
destination) and its return, for a given sequence of caller observations. -/
def runObsB {Req Dest} (c : Call Req Dest) (T n : Int) (obs : List Obs) (H : Int) : ResultB Dest :=
  finishB c n H (runFromB c n (beginB c T n) obs)

/-- closed form: the `j`-th transmission of a call is made by try `j` -/
def wireFrom {Req Dest} (c : Call Req Dest) : Nat → List Int → List (Tx Dest)
  | _, [] => []
  | j, t :: ts => c.tx j t :: wireFrom c (j + 1) ts

/-- the transmission records that go with a list of transmission instants
(`runObsB_sent`: this is what `runObsB` computes; the driver prints it for the
results of `runCall`) -/
def wire {Req Dest} (c : Call Req Dest) (txs : List Int) : List (Tx Dest) := wireFrom c 0 txs

/-- a caller that does not touch the request during the call -/
def Call.const {Req Dest} (enc : Req → List UInt8) (r : Req) (dest : Dest) : Call Req Dest :=
  ⟨enc, fun _ => r, dest⟩

/-- a caller that replaces the request `r` by `r'` while try `k` is waiting
(after its `send`, before the next one) -/
def Call.mutatedAfter {Req Dest} (enc : Req → List UInt8) (r r' : Req) (k : Nat) (dest : Dest) : Call Req Dest :=
  ⟨enc, fun j => if j ≤ k then r else r', dest⟩

end Dhcp.Client.Timed
