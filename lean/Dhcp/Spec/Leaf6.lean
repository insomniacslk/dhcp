import Dhcp.V6.Types
import Dhcp.Spec.Name
import Dhcp.Spec.Wire4
/-
  RFC value layouts of the DHCPv6 options that do not contain DHCPv6 options
  ("leaf" options) and of DUIDs, declaratively: for every option code a
  statement "the value bytes ARE this concatenation of fields, and denote this
  value".  No Lexer, no fuel, no sticky error, no decoder of the model: this
  file imports only the value types (`Opt6`, `DUID`, `NTPSub`, `Label.Labels`,
  `Pkt4`), the big-endian vocabulary of Dhcp/Go/Basic.lean (`be16`, `be32`), the
  domain-name specification `Spec.Name.DecodesTo` and the DHCPv4 packet
  specification `Spec.Parses4`.

  The acceptance boundary stated here is the LIBRARY's (insomniacslk/dhcp).
  Wherever it differs from the RFC text the clause carries a
  `-- library deviation:` comment with the RFC reference; the names in
  brackets are the entries of `ref6Deviations` in harness/cmd/harness/ref6.go
  (the independent Go reference decoder of oracle c05), which documents the
  library-side justification of each.

  `DhcpProofs/Lemmas/V6Leaf.lean` proves
     c ∉ containerCodes → (decSimple c v = .ok o ↔ PLeaf c v o)      and
     decDUID v = .ok d ↔ PDUID v d                                      .
-/
namespace Dhcp.Spec
open Dhcp Dhcp.V6

/-! ### units -/

/-- one second, in the unit of the value type (`time.Duration`, nanoseconds) -/
def nsPerSecond : Int := 1000000000
/-- one hundredth of a second (RFC 8415 §21.9), in nanoseconds -/
def nsPerCentisecond : Int := 10000000

/-! ### repeated fields -/

/-- `v` is the concatenation of the 16-bit big-endian forms of `ns` -/
def U16s (v : Bytes) (ns : List Nat) : Prop :=
  (∀ n ∈ ns, n < 65536) ∧ v = ns.flatMap be16

/-- `v` is a sequence of items, each preceded by its 16-bit length -/
def Items (v : Bytes) (xs : List Bytes) : Prop :=
  (∀ x ∈ xs, x.length < 65536) ∧ v = xs.flatMap (fun x => be16 x.length ++ x)

/-- `v` is a sequence of 16-octet IPv6 addresses -/
inductive Addrs : Bytes → List IP → Prop where
  | nil : Addrs [] []
  | cons {a rest : Bytes} {ips : List IP} :
      a.length = 16 → Addrs rest ips → Addrs (a ++ rest) (some a :: ips)

/-- `v` is tiled exactly by sub-option triples code(2) length(2) data(length),
each read by `P`, in wire order -/
inductive SubOpts {α : Type} (P : Nat → Bytes → α → Prop) : Bytes → List α → Prop where
  | nil : SubOpts P [] []
  | cons {code : Nat} {d rest : Bytes} {x : α} {xs : List α} :
      code < 65536 → d.length < 65536 → P code d x → SubOpts P rest xs →
      SubOpts P (be16 code ++ (be16 d.length ++ (d ++ rest))) (x :: xs)

/-- A domain-name field (RFC 1035 §3.1 names laid end to end) and its value:
the library keeps the field octets and the list of names in dotted form.
-- library deviation: [name-compression] RFC 8415 §10 forbids compression in
   DHCPv6; `Spec.Name.DecodesTo` (the rfc1035label package's documented
   behaviour) follows one level of RFC 1035 §4.1.4 pointers.
-- library deviation: [name-unterminated] a field may end inside its last
   name (RFC 4704 §4.2 partial name) in EVERY name-carrying option, not only
   in the client FQDN option. -/
def NameField (v : Bytes) (l : Label.Labels) : Prop :=
  l.original = some v ∧ Name.DecodesTo v l.labels

/-- the first occurrence of every code, in order of first appearance -/
def keepFirst : List Nat → List Nat
  | [] => []
  | c :: cs => c :: (keepFirst cs).filter (fun x => x != c)

/-! ### NTP server sub-options (RFC 5908 §4) -/

inductive PNTPSub : Nat → Bytes → NTPSub → Prop where
  /-- §4.1 NTP_SUBOPTION_SRV_ADDR: one IPv6 address -/
  | srvAddr {a : Bytes} : a.length = 16 → PNTPSub 1 a (.srvAddr (some a))
  /-- §4.2 NTP_SUBOPTION_MC_ADDR: one IPv6 multicast address -/
  | mcAddr {a : Bytes} : a.length = 16 → PNTPSub 2 a (.mcAddr (some a))
  /-- §4.3 NTP_SUBOPTION_SRV_FQDN: exactly one name (the count is enforced;
  compression and a missing zero label are tolerated as in every `NameField`) -/
  | srvFQDN {d : Bytes} {l : Label.Labels} :
      NameField d l → l.labels.length = 1 → PNTPSub 3 d (.srvFQDN l)
  /-- any other sub-option code: payload verbatim -/
  | other {c : Nat} {d : Bytes} : c ≠ 1 → c ≠ 2 → c ≠ 3 → PNTPSub c d (.generic c d)

/-! ### DUIDs (RFC 8415 §11, RFC 6355) -/

/-- `PDUID v d`: the octets `v` are a DUID, read as `d`.  §11.1: the type code is
followed by 1 to 128 octets. -/
inductive PDUID : Bytes → DUID → Prop where
  /-- §11.2 DUID-LLT: hardware type(2) time(4) link-layer address -/
  | llt {ht t : Nat} {a : Bytes} : ht < 65536 → t < 4294967296 → 6 + a.length ≤ 128 →
      PDUID (be16 1 ++ (be16 ht ++ (be32 t ++ a))) (.llt ht t a)
  /-- §11.3 DUID-EN: enterprise-number(4) identifier -/
  | en {n : Nat} {i : Bytes} : n < 4294967296 → 4 + i.length ≤ 128 →
      PDUID (be16 2 ++ (be32 n ++ i)) (.en n i)
  /-- §11.4 DUID-LL: hardware type(2) link-layer address -/
  | ll {ht : Nat} {a : Bytes} : ht < 65536 → 2 + a.length ≤ 128 →
      PDUID (be16 3 ++ (be16 ht ++ a)) (.ll ht a)
  /-- §11.5 / RFC 6355 DUID-UUID: exactly 16 octets -/
  | uuid {u : Bytes} : u.length = 16 → PDUID (be16 4 ++ u) (.uuid u)
  /-- any other type: opaque, 1..128 octets -/
  | opaque {t : Nat} {d : Bytes} : t < 65536 → t ≠ 1 → t ≠ 2 → t ≠ 3 → t ≠ 4 →
      1 ≤ d.length → d.length ≤ 128 → PDUID (be16 t ++ d) (.opaque t d)

/-! ### leaf options -/

/-- the option codes that have a layout of their own (here or, for the nine
container codes 1 2 3 4 5 9 25 26 97, in the framing grammar); the same list as
the `ParseOption` switch, re-checked against the source by Facts/V6Table.lean -/
def layoutCodes : List Nat :=
  [1, 2, 3, 4, 5, 6, 8, 9, 13, 15, 16, 17, 18, 23, 24, 25, 26, 32, 37, 39, 56, 59, 60, 61, 62, 79,
   87, 88, 97, 98, 99, 135]

/-- `PLeaf code v o`: `v` is a well-formed value of the leaf option `code`,
read as `o`. -/
inductive PLeaf : Nat → Bytes → Opt6 → Prop where
  /-- 6 OPTION_ORO, RFC 8415 §21.7: a sequence of 16-bit option codes.
  -- library deviation: the value is NORMALISED on decode — `OptionCodes.Add`
     (dhcpv6/option_requestedoption.go) drops every repetition of a code, the
     first occurrence stays (`keepFirst`).  The RFC reading is `cs`. -/
  | oro {v : Bytes} {cs : List Nat} : U16s v cs → PLeaf 6 v (.oro (keepFirst cs))
  /-- 8 OPTION_ELAPSED_TIME, §21.9: 2 octets, hundredths of a second -/
  | elapsed {t : Nat} : t < 65536 → PLeaf 8 (be16 t) (.elapsed (t * nsPerCentisecond))
  /-- 13 OPTION_STATUS_CODE, §21.13: status-code(2) status-message.
  -- library deviation: the message is kept as opaque octets (the RFC says
     UTF-8 text, not NUL terminated; neither is checked). -/
  | status {c : Nat} {m : Bytes} : c < 65536 → PLeaf 13 (be16 c ++ m) (.status c m)
  /-- 15 OPTION_USER_CLASS, §21.15: one or more user-class-len(2) data -/
  | userClass {v : Bytes} {cls : List Bytes} : Items v cls → cls ≠ [] → PLeaf 15 v (.userClass cls)
  /-- 16 OPTION_VENDOR_CLASS, §21.16: enterprise-number(4), then
  vendor-class-len(2) data items.
  -- library deviation: [vendorclass-no-data] the RFC gives no minimum number
     of items; the library rejects a value without any. -/
  | vendorClass {en : Nat} {v : Bytes} {ds : List Bytes} : en < 4294967296 → Items v ds → ds ≠ [] →
      PLeaf 16 (be32 en ++ v) (.vendorClass en ds)
  /-- 17 OPTION_VENDOR_OPTS, §21.17: enterprise-number(4), then sub-options
  code(2) len(2) data tiling the rest, kept opaque -/
  | vendorOpts {en : Nat} {v : Bytes} {os : List (Nat × Bytes)} : en < 4294967296 →
      SubOpts (fun c d x => x = (c, d)) v os → PLeaf 17 (be32 en ++ v) (.vendorOpts en os)
  /-- 18 OPTION_INTERFACE_ID, §21.18: opaque -/
  | interfaceID {v : Bytes} : PLeaf 18 v (.interfaceID v)
  /-- 23 OPTION_DNS_SERVERS, RFC 3646 §3: IPv6 addresses, 16 octets each -/
  | dns {v : Bytes} {ips : List IP} : Addrs v ips → PLeaf 23 v (.dns ips)
  /-- 24 OPTION_DOMAIN_LIST, RFC 3646 §4: a list of domain names
  (deviations: see `NameField`) -/
  | domainSearch {v : Bytes} {l : Label.Labels} : NameField v l → PLeaf 24 v (.domainSearch l)
  /-- 32 OPTION_INFORMATION_REFRESH_TIME, RFC 8415 §21.23: 4 octets, seconds -/
  | infoRefresh {s : Nat} : s < 4294967296 → PLeaf 32 (be32 s) (.infoRefresh (s * nsPerSecond))
  /-- 37 OPTION_REMOTE_ID, RFC 4649 §3: enterprise-number(4) remote-id.
  -- library deviation: [remoteid-empty] RFC 4649 §3 says "the minimum
     option-len is 5 octets"; the library accepts an empty remote-id. -/
  | remoteID {en : Nat} {id : Bytes} : en < 4294967296 → PLeaf 37 (be32 en ++ id) (.remoteID en id)
  /-- 39 OPTION_CLIENT_FQDN, RFC 4704 §4: flags(1) domain-name.
  -- library deviation: [fqdn-extra-names] RFC 4704 §4.2: the field holds ONE
     name (complete, partial or empty); the library reads a list of names.
     All eight flag bits are kept (the MBZ bits are not checked). -/
  | fqdn {f : UInt8} {v : Bytes} {l : Label.Labels} : NameField v l → PLeaf 39 (f :: v) (.fqdn f l)
  /-- 56 OPTION_NTP_SERVER, RFC 5908 §4: sub-options tiling the value -/
  | ntp {v : Bytes} {subs : List NTPSub} : SubOpts PNTPSub v subs → PLeaf 56 v (.ntp subs)
  /-- 59 OPT_BOOTFILE_URL, RFC 5970 §3.1: the URL octets (not NUL terminated).
  -- library deviation: not checked to be an RFC 3986 URL. -/
  | bootfileURL {v : Bytes} : PLeaf 59 v (.bootfileURL v)
  /-- 60 OPT_BOOTFILE_PARAM, RFC 5970 §3.2: param-len(2) parameter items
  (possibly none) -/
  | bootfileParam {v : Bytes} {ps : List Bytes} : Items v ps → PLeaf 60 v (.bootfileParam ps)
  /-- 61 OPTION_CLIENT_ARCH_TYPE, RFC 5970 §3.3: one or more 16-bit
  architecture types -/
  | archType {v : Bytes} {as : List Nat} : U16s v as → as ≠ [] → PLeaf 61 v (.archType as)
  /-- 62 OPTION_NII, RFC 5970 §3.4: type(1) major(1) minor(1) -/
  | nii {t ma mi : UInt8} : PLeaf 62 [t, ma, mi] (.nii t ma mi)
  /-- 79 OPTION_CLIENT_LINKLAYER_ADDR, RFC 6939 §4: link-layer type(2) address -/
  | clientLLA {ht : Nat} {a : Bytes} : ht < 65536 → PLeaf 79 (be16 ht ++ a) (.clientLLA ht a)
  /-- 87 OPTION_DHCPV4_MSG, RFC 7341 §7.1: a whole DHCPv4 message, with the
  RFC 2131/2132/3396 reading of `Spec.Parses4` (Dhcp/Spec/Wire4.lean) -/
  | dhcpv4Msg {v : Bytes} {p : V4.Pkt4} : Parses4 v p → PLeaf 87 v (.dhcpv4Msg p)
  /-- 88 OPTION_DHCP4_O_DHCP6_SERVER, RFC 7341 §7.2: IPv6 addresses (possibly none) -/
  | dhcp4o6Server {v : Bytes} {ips : List IP} : Addrs v ips → PLeaf 88 v (.dhcp4o6Server ips)
  /-- 98 OPTION_4RD_MAP_RULE, RFC 7600 §4.9: prefix4-len(1) prefix6-len(1)
  ea-len(1) W|reserved(1) rule-ipv4-prefix(4) rule-ipv6-prefix(16); the
  prefix lengths are at most 32 and 128; W is the top bit of the fourth octet.
  -- library deviation: [4rd-ea-len-over-48] ea-len > 48 is read like any other
     value (a value-range rule, not layout); the reserved bits are dropped. -/
  | fourRDMapRule {p4len p6len ea fl : UInt8} {p4 p6 : Bytes} :
      p4len.toNat ≤ 32 → p6len.toNat ≤ 128 → p4.length = 4 → p6.length = 16 →
      PLeaf 98 (p4len :: p6len :: ea :: fl :: (p4 ++ p6))
        (.fourRDMapRule p4len.toNat (some p4) p6len.toNat (some p6) ea (decide (128 ≤ fl.toNat)))
  /-- 99 OPTION_4RD_NON_MAP_RULE, RFC 7600 §4.9: H|0(6)|T (1) traffic-class(1)
  domain-pmtu(2); H is the top bit and T the low bit of the first octet; the
  traffic class is present in the value only when T is set.
  -- library deviation: [4rd-pmtu-under-1280] domain-pmtu < 1280 is read like
     any other value (a value-range rule, not layout). -/
  | fourRDNonMapRule {fl tc : UInt8} {pmtu : Nat} : pmtu < 65536 →
      PLeaf 99 (fl :: tc :: be16 pmtu)
        (.fourRDNonMapRule (decide (128 ≤ fl.toNat))
          (if fl.toNat % 2 = 1 then some tc else none) pmtu)
  /-- 135 OPTION_RELAY_PORT, RFC 8357 §5.2: 2 octets -/
  | relayPort {p : Nat} : p < 65536 → PLeaf 135 (be16 p) (.relayPort p)
  /-- every other code: the payload verbatim.
  -- library deviation: this includes the codes whose RFC layout the library
     does not implement (7 preference = 1 octet, 14 rapid commit = empty,
     12 server unicast = 16 octets, 11 authentication, 19 reconfigure message,
     20 reconfigure accept, 82/83 SOL_MAX_RT/INF_MAX_RT, …): any length is
     accepted for them and the octets are kept opaque. -/
  | generic {c : Nat} {v : Bytes} : c ∉ layoutCodes → PLeaf c v (.generic c v)

end Dhcp.Spec
