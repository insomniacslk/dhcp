import Dhcp.V6.Codec
/-
  Cost measures over the EXISTING pure models (property C09).  Nothing here
  re-implements a decoder: every function below is a plain structural measure
  of a decoded value (and, for `work6`, of the input length).

  * `size4`, `sizeOpt`/`sizeOpts`/`size6`, `sizeLabels`: bytes retained by a
    decoded value = payload bytes of every variable-length leaf + the fixed
    constant `nodeC` for every node (option struct, list item, map entry,
    label string, the message itself).  Fixed-width fields (durations, codes,
    enterprise numbers, flags) live inside the node constant.  A label set
    counts its private copy of the wire bytes (`original`) and every name.
  * `depth6`: nesting depth of option lists — the top-level list is level 1;
    IA_NA / IA_TA / IA_PD / IAAddr / IAPrefix / 4RD add one level for their
    inner list, a relay-message option adds the levels of the message it
    carries, vendor-opts and NTP add one level for their sub-options.
  * `nest6`: Σ over every option at every level of the length of its encoded
    value — what `ToBytes` writes: each option value is built in its own
    buffer and then copied into the buffer of the enclosing list, so a byte is
    written once per enclosing level.  Used by the `cost` stream only (the
    fine-grained side of the two-sided fit); `lenNest6_fst` in
    DhcpProofs/Lemmas/Cost6.lean shows the lengths are those of `encOpt`.
  * `work6 m b = |b|·(depth6 m + c1) + c2·size6 m`: the allocation envelope
    the C09 work theorem is about (see DhcpProofs/Props/C09.lean for how it
    relates to what the Go code allocates).
-/
namespace Dhcp.Cost
open Dhcp Dhcp.V6

/-- fixed per-node constant (Go: struct + slice/string/interface headers) -/
def nodeC : Nat := 32

/-- a possibly nil byte slice (net.IP) held in a fixed field -/
def szIP (ip : Option Bytes) : Nat := (ip.getD []).length

/-- a list of byte strings: one node per item -/
def szItems : List Bytes → Nat
  | [] => 0
  | x :: xs => nodeC + x.length + szItems xs

/-- a list of possibly-nil IPs: one node per item -/
def szIPs : List (Option Bytes) → Nat
  | [] => 0
  | x :: xs => nodeC + szIP x + szIPs xs

/-- `rfc1035label.Labels`: private copy of the wire form + every name -/
def sizeLabels (l : Label.Labels) : Nat :=
  nodeC + (l.original.getD []).length + szItems l.labels

/-! ### DHCPv4 -/

/-- one map entry -/
def szEntry : Option Bytes → Nat
  | some v => nodeC + v.length
  | none => 0

def sizeOpts4 (o : V4.Opts) : Nat := (V4.Opts.allCodes.map (fun k => szEntry (o.f k))).sum

def size4 (p : V4.Pkt4) : Nat :=
  nodeC + p.hw.length + p.xid.length + szIP p.ciaddr + szIP p.yiaddr + szIP p.siaddr + szIP p.giaddr
    + p.sname.length + p.file.length + sizeOpts4 p.opts

/-! ### DHCPv6 -/

def sizeDUID : DUID → Nat
  | .llt _ _ a => nodeC + a.length
  | .en _ i => nodeC + i.length
  | .ll _ a => nodeC + a.length
  | .uuid u => nodeC + u.length
  | .opaque _ d => nodeC + d.length

def sizeNTPSub : NTPSub → Nat
  | .srvAddr ip => nodeC + szIP ip
  | .mcAddr ip => nodeC + szIP ip
  | .srvFQDN l => nodeC + sizeLabels l
  | .generic _ d => nodeC + d.length

def sizeNTPSubs : List NTPSub → Nat
  | [] => 0
  | s :: ss => sizeNTPSub s + sizeNTPSubs ss

/-- vendor sub-options `(code, data)` -/
def szVend : List (Nat × Bytes) → Nat
  | [] => 0
  | x :: xs => nodeC + x.2.length + szVend xs

mutual
def sizeOpt : Opt6 → Nat
  | .clientID d => nodeC + sizeDUID d
  | .serverID d => nodeC + sizeDUID d
  | .iana iaid _ _ os => nodeC + iaid.length + sizeOpts os
  | .iata iaid os => nodeC + iaid.length + sizeOpts os
  | .iaaddr ip _ _ os => nodeC + szIP ip + sizeOpts os
  | .oro cs => nodeC + 2 * cs.length
  | .elapsed _ => nodeC
  | .relayMsg m => nodeC + size6 m
  | .status _ m => nodeC + m.length
  | .userClass cls => nodeC + szItems cls
  | .vendorClass _ ds => nodeC + szItems ds
  | .vendorOpts _ os => nodeC + szVend os
  | .interfaceID id => nodeC + id.length
  | .dns ips => nodeC + szIPs ips
  | .domainSearch l => nodeC + sizeLabels l
  | .iapd iaid _ _ os => nodeC + iaid.length + sizeOpts os
  | .iaprefix _ _ pfx os => nodeC + (match pfx with | some (_, ip) => szIP ip | none => 0) + sizeOpts os
  | .infoRefresh _ => nodeC
  | .remoteID _ id => nodeC + id.length
  | .fqdn _ n => nodeC + sizeLabels n
  | .ntp subs => nodeC + sizeNTPSubs subs
  | .bootfileURL u => nodeC + u.length
  | .bootfileParam ps => nodeC + szItems ps
  | .archType as => nodeC + 2 * as.length
  | .nii _ _ _ => nodeC
  | .clientLLA _ a => nodeC + a.length
  | .dhcpv4Msg p => nodeC + size4 p
  | .dhcp4o6Server ips => nodeC + szIPs ips
  | .fourRD os => nodeC + sizeOpts os
  | .fourRDMapRule _ p4 _ p6 _ _ => nodeC + szIP p4 + szIP p6
  | .fourRDNonMapRule _ _ _ => nodeC
  | .relayPort _ => nodeC
  | .generic _ d => nodeC + d.length
def sizeOpts : List Opt6 → Nat
  | [] => 0
  | o :: os => sizeOpt o + sizeOpts os
def size6 : Msg6 → Nat
  | .msg _ xid os => nodeC + xid.length + sizeOpts os
  | .relay _ _ link peer os => nodeC + szIP link + szIP peer + sizeOpts os
end

mutual
def depthOpt : Opt6 → Nat
  | .iana _ _ _ os => 1 + depthOpts os
  | .iata _ os => 1 + depthOpts os
  | .iaaddr _ _ _ os => 1 + depthOpts os
  | .iapd _ _ _ os => 1 + depthOpts os
  | .iaprefix _ _ _ os => 1 + depthOpts os
  | .fourRD os => 1 + depthOpts os
  | .relayMsg m => depth6 m
  | .vendorOpts _ _ => 1
  | .ntp _ => 1
  | .clientID _ => 0 | .serverID _ => 0 | .oro _ => 0 | .elapsed _ => 0 | .status _ _ => 0
  | .userClass _ => 0 | .vendorClass _ _ => 0 | .interfaceID _ => 0 | .dns _ => 0
  | .domainSearch _ => 0 | .infoRefresh _ => 0 | .remoteID _ _ => 0 | .fqdn _ _ => 0
  | .bootfileURL _ => 0 | .bootfileParam _ => 0 | .archType _ => 0 | .nii _ _ _ => 0
  | .clientLLA _ _ => 0 | .dhcpv4Msg _ => 0 | .dhcp4o6Server _ => 0
  | .fourRDMapRule _ _ _ _ _ _ => 0 | .fourRDNonMapRule _ _ _ => 0 | .relayPort _ => 0
  | .generic _ _ => 0
def depthOpts : List Opt6 → Nat
  | [] => 0
  | o :: os => max (depthOpt o) (depthOpts os)
/-- nesting depth of a message; the top-level option list is level 1 -/
def depth6 : Msg6 → Nat
  | .msg _ _ os => 1 + depthOpts os
  | .relay _ _ _ _ os => 1 + depthOpts os
end

mutual
/-- `(encoded value length, Σ over the option and every option below it of the
encoded value length)`, in one pass: the length of an option that carries an
option list is its fixed part plus the lengths of the options in the list
(4-byte header each); leaves are measured on their encoding. -/
def lenNestOpt : Opt6 → Nat × Nat
  | .iana _ _ _ os => let r := lenNestOpts os; (12 + r.1, 12 + r.1 + r.2)
  | .iata _ os => let r := lenNestOpts os; (4 + r.1, 4 + r.1 + r.2)
  | .iaaddr _ _ _ os => let r := lenNestOpts os; (24 + r.1, 24 + r.1 + r.2)
  | .iapd _ _ _ os => let r := lenNestOpts os; (12 + r.1, 12 + r.1 + r.2)
  | .iaprefix _ _ _ os => let r := lenNestOpts os; (25 + r.1, 25 + r.1 + r.2)
  | .fourRD os => let r := lenNestOpts os; (r.1, r.1 + r.2)
  | .relayMsg m => lenNest6 m
  | .clientID d => let l := (encOpt (.clientID d)).length; (l, l)
  | .serverID d => let l := (encOpt (.serverID d)).length; (l, l)
  | .oro x => let l := (encOpt (.oro x)).length; (l, l)
  | .elapsed x => let l := (encOpt (.elapsed x)).length; (l, l)
  | .status x y => let l := (encOpt (.status x y)).length; (l, l)
  | .userClass x => let l := (encOpt (.userClass x)).length; (l, l)
  | .vendorClass x y => let l := (encOpt (.vendorClass x y)).length; (l, l)
  | .vendorOpts x y => let l := (encOpt (.vendorOpts x y)).length; (l, 2 * l)
  | .interfaceID x => let l := (encOpt (.interfaceID x)).length; (l, l)
  | .dns x => let l := (encOpt (.dns x)).length; (l, l)
  | .domainSearch x => let l := (encOpt (.domainSearch x)).length; (l, l)
  | .infoRefresh x => let l := (encOpt (.infoRefresh x)).length; (l, l)
  | .remoteID x y => let l := (encOpt (.remoteID x y)).length; (l, l)
  | .fqdn x y => let l := (encOpt (.fqdn x y)).length; (l, l)
  | .ntp x => let l := (encOpt (.ntp x)).length; (l, 2 * l)
  | .bootfileURL x => let l := (encOpt (.bootfileURL x)).length; (l, l)
  | .bootfileParam x => let l := (encOpt (.bootfileParam x)).length; (l, l)
  | .archType x => let l := (encOpt (.archType x)).length; (l, l)
  | .nii x y z => let l := (encOpt (.nii x y z)).length; (l, l)
  | .clientLLA x y => let l := (encOpt (.clientLLA x y)).length; (l, l)
  | .dhcpv4Msg p => let l := (encOpt (.dhcpv4Msg p)).length; (l, l)
  | .dhcp4o6Server x => let l := (encOpt (.dhcp4o6Server x)).length; (l, l)
  | .fourRDMapRule a b c d e f => let l := (encOpt (.fourRDMapRule a b c d e f)).length; (l, l)
  | .fourRDNonMapRule a b c => let l := (encOpt (.fourRDNonMapRule a b c)).length; (l, l)
  | .relayPort x => let l := (encOpt (.relayPort x)).length; (l, l)
  | .generic c d => let l := (encOpt (.generic c d)).length; (l, l)
def lenNestOpts : List Opt6 → Nat × Nat
  | [] => (0, 0)
  | o :: os =>
    let a := lenNestOpt o
    let b := lenNestOpts os
    (4 + a.1 + b.1, 4 + a.2 + b.2)
def lenNest6 : Msg6 → Nat × Nat
  | .msg _ _ os => let r := lenNestOpts os; (4 + r.1, 4 + r.1 + r.2)
  | .relay _ _ _ _ os => let r := lenNestOpts os; (34 + r.1, 34 + r.1 + r.2)
end

/-- bytes written by `ToBytes` of the message, every level's buffer counted -/
def nest6 (m : Msg6) : Nat := (lenNest6 m).2
def nestOpt (o : Opt6) : Nat := (lenNestOpt o).2

/-- coefficient of the per-byte linear term of `work6` -/
def c1 : Nat := 8
/-- coefficient of the retained size in `work6` -/
def c2 : Nat := 4

/-- Allocation envelope of decoding `b` to `m` and re-encoding `m`: one copy
of the input per nesting level, a fixed multiple of the input, a fixed
multiple of the retained value. -/
def work6 (m : Msg6) (b : Bytes) : Nat := b.length * (depth6 m + c1) + c2 * size6 m

/-- DHCPv4 has no nesting: the envelope is linear. -/
def work4 (p : V4.Pkt4) (b : Bytes) : Nat := c1 * b.length + c2 * size4 p

end Dhcp.Cost
