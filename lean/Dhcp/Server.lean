import Dhcp.V4.Packet
import Dhcp.V6.Codec
/-
  Model of the two serving loops, `(*server4.Server).Serve`
  (dhcpv4/server4/server.go) and `(*server6.Server).Serve`
  (dhcpv6/server6/server.go):

      defer s.Close()
      for {
          rbuf := make([]byte, 4096)
          n, peer, err := s.conn.ReadFrom(rbuf)
          if err != nil { return err }
          m, err := FromBytes(rbuf[:n])
          if err != nil { continue }
          // server4 only:
          upeer, ok := peer.(*net.UDPAddr)
          if !ok { continue }
          if upeer.IP == nil || upeer.IP.To4().Equal(net.IPv4zero) {
              upeer = &net.UDPAddr{IP: net.IPv4bcast, Port: upeer.Port}
          }
          go s.Handler(s.conn, upeer, m)
      }

  The socket is a list of read results; the output is the list of handler
  invocations (in the order of the `go` statements) and the way the loop
  ended.  The model is parametric in the decoder and in the peer rule so that
  the same fold serves DHCPv4 (`dec4`, `peer4`) and DHCPv6 (`dec6`, `peer6`).
-/
namespace Dhcp.Server
open Dhcp

/-- `make([]byte, 4096)`: at most this many bytes of a datagram reach the
decoder (`rbuf[:n]`, `n ≤ len(rbuf)`); a longer datagram is cut by the read. -/
def readBufLen : Nat := 4096

/-- `net.IPv4bcast` = `net.IPv4(255,255,255,255)` (the 16-byte form). -/
def ipv4bcast : Bytes := zeros 10 ++ [255, 255, 255, 255, 255, 255]
/-- `net.IPv4zero` as the 4 bytes `Equal` compares against. -/
def ipv4zero4 : Bytes := [0, 0, 0, 0]

/-- The `net.Addr` returned by `ReadFrom`, as far as the loops look at it. -/
inductive Peer where
  /-- a non-nil `*net.UDPAddr`; `ip = none` is the nil slice -/
  | udp (ip : Option Bytes) (port : Nat) (zone : Bytes)
  /-- the interface holds a nil `*net.UDPAddr` (no real socket returns this) -/
  | udpNilPtr
  /-- any other dynamic type (`*net.IPAddr`, `*net.UnixAddr`, …), told apart by `id` -/
  | other (id : Nat)
  /-- the nil interface -/
  | nilAddr
  deriving DecidableEq, Repr, Inhabited

inductive ReadResult where
  /-- `ReadFrom` delivered a datagram (possibly empty) from `peer` -/
  | datagram (bytes : Bytes) (peer : Peer)
  /-- `ReadFrom` returned an error (socket failure, or the server was closed) -/
  | readError
  deriving DecidableEq, Repr, Inhabited

def ReadResult.isDatagram : ReadResult → Bool
  | .datagram _ _ => true
  | .readError => false

/-- How the loop ended. -/
inductive Exit where
  /-- `Serve` returned the read error (after the deferred `Close`) -/
  | returned
  /-- `Serve` panicked (nil `*net.UDPAddr` dereferenced in server4) -/
  | panicked
  /-- the list of read results is exhausted: `Serve` is still blocked in `ReadFrom` -/
  | blocked
  deriving DecidableEq, Repr, Inhabited

/-- One `go s.Handler(s.conn, peer, msg)`; `idx` is the position of the
datagram in the sequence of reads. -/
structure Invocation (α : Type) where
  idx : Nat
  msg : α
  peer : Peer

structure Outcome (α : Type) where
  invocations : List (Invocation α)
  exit : Exit

/-- `upeer.IP.To4().Equal(net.IPv4zero)` for a non-nil `IP`. -/
def isZero4 (ip : Bytes) : Bool := V4.to4 ip == some ipv4zero4

/-- server4: the peer handed to the handler.  `.err` = "Not a UDP connection?"
(logged, `continue`, no invocation); `.panic` = the checked type assertion
succeeds on a nil `*net.UDPAddr` and `upeer.IP` dereferences it. -/
def peer4 : Peer → Res Peer
  | .udp none port _ => .ok (.udp (some ipv4bcast) port [])
  | .udp (some ip) port zone =>
    if isZero4 ip then .ok (.udp (some ipv4bcast) port []) else .ok (.udp (some ip) port zone)
  | .udpNilPtr => .panic
  | .other _ => .err
  | .nilAddr => .err

/-- server6: the peer is passed on untouched, whatever it is. -/
def peer6 (p : Peer) : Res Peer := .ok p

/-- What one iteration of the loop does with one read result. -/
inductive Step (α : Type) where
  | invoke (m : α) (p : Peer)
  | skip
  | stop (e : Exit)

section
variable {α : Type} (dec : Bytes → Option α) (rule : Peer → Res Peer)

def step : ReadResult → Step α
  | .readError => .stop .returned
  | .datagram b p =>
    match dec (b.take readBufLen) with
    | none => .skip
    | some m =>
      match rule p with
      | .ok p' => .invoke m p'
      | .err => .skip
      | .panic => .stop .panicked

/-- the loop, started at read number `i` -/
def serveFrom : Nat → List ReadResult → Outcome α
  | _, [] => ⟨[], .blocked⟩
  | i, r :: rest =>
    match step dec rule r with
    | .stop e => ⟨[], e⟩
    | .skip => serveFrom (i + 1) rest
    | .invoke m p =>
      let o := serveFrom (i + 1) rest
      ⟨⟨i, m, p⟩ :: o.invocations, o.exit⟩

def serve (rs : List ReadResult) : Outcome α := serveFrom dec rule 0 rs

/-- Specification vocabulary (not used by the loop): the handler call that
read result `r`, read at position `i`, is entitled to — its own decoding and
its own sender, nothing else. -/
def handlerCall (r : ReadResult) (i : Nat) : Option (Invocation α) :=
  match r with
  | .readError => none
  | .datagram b p =>
    match dec (b.take readBufLen), rule p with
    | some m, .ok p' => some ⟨i, m, p'⟩
    | _, _ => none

/-- what the handler saw, without the position -/
def Outcome.calls (o : Outcome α) : List (α × Peer) := o.invocations.map (fun v => (v.msg, v.peer))
end

/-- `dhcpv4.FromBytes` as an acceptance function (`dec4` never panics:
`Dhcp.Server.dec4_ne_panic` in DhcpProofs/Lemmas/Server.lean). -/
def decode4 (b : Bytes) : Option V4.Pkt4 := (V4.dec4 b).toOption

/-- `(*server4.Server).Serve` -/
def serve4 (rs : List ReadResult) : Outcome V4.Pkt4 := serve decode4 peer4 rs

/-- `(*server6.Server).Serve`, for a given model of `dhcpv6.FromBytes`. -/
def serve6 {α : Type} (dec6 : Bytes → Option α) (rs : List ReadResult) : Outcome α :=
  serve dec6 peer6 rs

/-- `dhcpv6.FromBytes` as an acceptance function (`dec6` never panics:
`Dhcp.V6.dec6_ne_panic`). -/
def decode6 (b : Bytes) : Option V6.Msg6 := (V6.dec6 b).toOption

/-- `(*server6.Server).Serve` with the DHCPv6 codec model as decoder -/
def serve6dec (rs : List ReadResult) : Outcome V6.Msg6 := serve6 decode6 rs

end Dhcp.Server
