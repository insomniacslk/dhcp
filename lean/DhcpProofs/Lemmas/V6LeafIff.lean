import DhcpProofs.Lemmas.V6Parse
/-
  The framing grammar with delegated leaves (`Spec.PMsg`/`POpt`/`POpts`,
  Dhcp/Spec/Wire6.lean, whose `leaf`/`clientID`/`serverID` constructors call
  the model's `decSimple`/`decDUID`) derives exactly what the fully declarative
  grammar (`Spec.PMsg'`/`POpt'`/`POpts'`, Dhcp/Spec/Wire6Rfc.lean, leaves given
  by `PLeaf`/`PDUID`) derives.  With `dec6_iff` this makes the decoder model
  equivalent to a specification that shares no code with it.
-/
namespace Dhcp.V6
open Dhcp.Spec

mutual
theorem POpt_to_rfc {c : Nat} {v : Bytes} {o : Opt6} (h : POpt c v o) : POpt' c v o := by
  cases h with
  | leaf hc hd => exact .leaf ((decSimple_iff_PLeaf _ _ _ hc).mp hd)
  | clientID hd => exact .clientID ((decDUID_iff _ _).mp hd)
  | serverID hd => exact .serverID ((decDUID_iff _ _).mp hd)
  | iana hi h1 h2 h => exact .iana hi h1 h2 (POpts_to_rfc h)
  | iata hi h => exact .iata hi (POpts_to_rfc h)
  | iaaddr hi h1 h2 h => exact .iaaddr hi h1 h2 (POpts_to_rfc h)
  | relayMsg h => exact .relayMsg (PMsg_to_rfc h)
  | iapd hi h1 h2 h => exact .iapd hi h1 h2 (POpts_to_rfc h)
  | iaprefix h1 h2 hl hi h => exact .iaprefix h1 h2 hl hi (POpts_to_rfc h)
  | fourRD h => exact .fourRD (POpts_to_rfc h)
theorem POpts_to_rfc {d : Bytes} {os : List Opt6} (h : POpts d os) : POpts' d os := by
  cases h with
  | nil => exact .nil
  | cons hc hv hp hs => exact tlv_append _ _ _ ▸ .cons hc hv (POpt_to_rfc hp) (POpts_to_rfc hs)
theorem PMsg_to_rfc {b : Bytes} {m : Msg6} (h : PMsg b m) : PMsg' b m := by
  cases h with
  | msg ht hx h => exact .msg ht hx (POpts_to_rfc h)
  | relay ht hl hp h => exact .relay ht hl hp (POpts_to_rfc h)
end

mutual
theorem POpt_of_rfc {c : Nat} {v : Bytes} {o : Opt6} (h : POpt' c v o) : POpt c v o := by
  cases h with
  | leaf hl => exact .leaf (PLeaf_not_container hl) (decSimple_complete _ _ _ hl)
  | clientID hd => exact .clientID ((decDUID_iff _ _).mpr hd)
  | serverID hd => exact .serverID ((decDUID_iff _ _).mpr hd)
  | iana hi h1 h2 h => exact .iana hi h1 h2 (POpts_of_rfc h)
  | iata hi h => exact .iata hi (POpts_of_rfc h)
  | iaaddr hi h1 h2 h => exact .iaaddr hi h1 h2 (POpts_of_rfc h)
  | relayMsg h => exact .relayMsg (PMsg_of_rfc h)
  | iapd hi h1 h2 h => exact .iapd hi h1 h2 (POpts_of_rfc h)
  | iaprefix h1 h2 hl hi h => exact .iaprefix h1 h2 hl hi (POpts_of_rfc h)
  | fourRD h => exact .fourRD (POpts_of_rfc h)
theorem POpts_of_rfc {d : Bytes} {os : List Opt6} (h : POpts' d os) : POpts d os := by
  cases h with
  | nil => exact .nil
  | cons hc hv hp hs => exact tlv_append _ _ _ ▸ POpts.cons hc hv (POpt_of_rfc hp) (POpts_of_rfc hs)
theorem PMsg_of_rfc {b : Bytes} {m : Msg6} (h : PMsg' b m) : PMsg b m := by
  cases h with
  | msg ht hx h => exact .msg ht hx (POpts_of_rfc h)
  | relay ht hl hp h => exact .relay ht hl hp (POpts_of_rfc h)
end

theorem POpt_iff_rfc (c : Nat) (v : Bytes) (o : Opt6) : POpt c v o ↔ POpt' c v o :=
  ⟨POpt_to_rfc, POpt_of_rfc⟩
theorem POpts_iff_rfc (d : Bytes) (os : List Opt6) : POpts d os ↔ POpts' d os :=
  ⟨POpts_to_rfc, POpts_of_rfc⟩
theorem PMsg_iff_rfc (b : Bytes) (m : Msg6) : PMsg b m ↔ PMsg' b m :=
  ⟨PMsg_to_rfc, PMsg_of_rfc⟩

theorem dec6_iff_rfc (b : Bytes) (m : Msg6) : dec6 b = .ok m ↔ PMsg' b m :=
  (dec6_iff b m).trans (PMsg_iff_rfc b m)
theorem parseOption_iff_rfc (code : Nat) (data : Bytes) (o : Opt6) :
    parseOption code data = .ok o ↔ POpt' code data o :=
  (parseOption_iff code data o).trans (POpt_iff_rfc code data o)
theorem decOpts_iff_rfc (data : Bytes) (os : List Opt6) : decOpts data = .ok os ↔ POpts' data os :=
  (decOpts_iff data os).trans (POpts_iff_rfc data os)

theorem parseOption_leaf_iff (c : Nat) (v : Bytes) (o : Opt6) (hc : c ∉ containerCodes) :
    parseOption c v = .ok o ↔ PLeaf c v o := by
  unfold parseOption fuelFor
  rw [parseOpt_leaf (v.length + 1) c v hc]
  exact decSimple_iff_PLeaf c v o hc

theorem PLeaf_functional {c : Nat} {v : Bytes} {o o' : Opt6} (h : PLeaf c v o) (h' : PLeaf c v o') :
    o = o' :=
  Res.ok.inj ((decSimple_complete c v o h).symm.trans (decSimple_complete c v o' h'))

theorem PDUID_functional {v : Bytes} {d d' : DUID} (h : PDUID v d) (h' : PDUID v d') : d = d' :=
  Res.ok.inj (((decDUID_iff v d).mpr h).symm.trans ((decDUID_iff v d').mpr h'))

end Dhcp.V6
