import Dhcp.Spec.Relay6
/- Helper lemmas for C16: `Options.GetOne`, the relay nesting depth that serves
as fuel of the decapsulation loops. -/
namespace Dhcp.V6

@[simp] theorem getOne_nil (c : Nat) : getOne c [] = none := rfl

theorem getOne_cons (c : Nat) (o : Opt6) (os : List Opt6) :
    getOne c (o :: os) = if o.code = c then some o else getOne c os := by
  unfold getOne
  by_cases h : o.code = c <;> simp [h]

theorem getOne_code {c : Nat} {os : List Opt6} {o : Opt6} (h : getOne c os = some o) : o.code = c := by
  simpa using List.find?_some h

theorem getOne_mem {c : Nat} {os : List Opt6} {o : Opt6} (h : getOne c os = some o) : o ∈ os :=
  List.mem_of_find?_eq_some h

theorem mem_get {c : Nat} {os : List Opt6} {o : Opt6} : o ∈ get c os ↔ o ∈ os ∧ o.code = c := by
  simp [get]

theorem getOne_eq_none_iff {c : Nat} {os : List Opt6} :
    getOne c os = none ↔ ∀ o ∈ os, o.code ≠ c := by
  simp [getOne]

theorem getOne_eq_some_iff {c : Nat} {os : List Opt6} {x : Opt6} :
    getOne c os = some x ↔ x.code = c ∧ ∃ pre post, os = pre ++ x :: post ∧ ∀ y ∈ pre, y.code ≠ c := by
  simp [getOne, List.find?_eq_some_iff_append]

theorem getOne_split {c : Nat} {pre post : List Opt6} {x : Opt6} (hpre : ∀ y ∈ pre, y.code ≠ c) (hx : x.code = c) :
    getOne c (pre ++ x :: post) = some x :=
  getOne_eq_some_iff.mpr ⟨hx, pre, post, rfl, hpre⟩

theorem getOne_append (c : Nat) (xs ys : List Opt6) :
    getOne c (xs ++ ys) = (getOne c xs).or (getOne c ys) := by
  unfold getOne; simp [List.find?_append]

theorem getOne_toList_self {c : Nat} {os : List Opt6} : getOne c (getOne c os).toList = getOne c os := by
  cases h : getOne c os with
  | none => rfl
  | some o => simp [getOne_cons, getOne_code h]

theorem getOne_toList_other {c d : Nat} {os : List Opt6} (hcd : c ≠ d) : getOne d (getOne c os).toList = none := by
  cases h : getOne c os with
  | none => rfl
  | some o =>
    have := getOne_code h
    simp [getOne_cons, this, hcd]

@[simp] theorem relayMessageOf_cons_relayMsg (m : Msg6) (os : List Opt6) :
    relayMessageOf (.relayMsg m :: os) = some m := by
  simp [relayMessageOf, getOne_cons, Opt6.code, ocRelayMsg]

theorem relayMessageOf_mem {os : List Opt6} {m : Msg6} (h : relayMessageOf os = some m) :
    Opt6.relayMsg m ∈ os := by
  unfold relayMessageOf at h
  split at h
  · next m' hg => cases h; exact getOne_mem hg
  · cases h

theorem optDepth_le_of_mem {o : Opt6} {os : List Opt6} (h : o ∈ os) : optDepth o ≤ optsDepth os := by
  induction os with
  | nil => cases h
  | cons x xs ih =>
    rw [optsDepth]
    cases h with
    | head => omega
    | tail _ h' => have := ih h'; omega

theorem msgDepth_of_relayMessageOf {os : List Opt6} {m : Msg6} (h : relayMessageOf os = some m) :
    msgDepth m ≤ optsDepth os := by
  have := optDepth_le_of_mem (relayMessageOf_mem h)
  rwa [optDepth] at this

theorem msgDepth_relay (t h : UInt8) (l p : IP) (os : List Opt6) :
    msgDepth (.relay t h l p os) = optsDepth os + 1 := by rw [msgDepth]

theorem isRelay_iff {m : Msg6} : m.isRelay = true ↔ ∃ t h l p os, m = .relay t h l p os := by
  cases m with
  | msg t x os => simp [Msg6.isRelay]
  | relay t h l p os => simp [Msg6.isRelay]

theorem not_isRelay_iff {m : Msg6} : m.isRelay = false ↔ ∃ t x os, m = .msg t x os := by
  cases m with
  | msg t x os => simp [Msg6.isRelay]
  | relay t h l p os => simp [Msg6.isRelay]

theorem decapsulateRelay_ne_panic (l : Msg6) : decapsulateRelay l ≠ .panic := by
  cases l with
  | msg t x os => nofun
  | relay t h lk p os =>
    simp only [decapsulateRelay]
    split <;> nofun

end Dhcp.V6
