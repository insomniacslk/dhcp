import DhcpProofs.Lemmas.RawRead
/-
  Lemmas for C18 (read side): what the specification makes of a received frame
  depends on its fixed header, its length and what follows the header — not on
  the octets of its IPv4 options.
-/
namespace Dhcp.Raw
open Dhcp.Spec.Inet

theorem wellFormedForMe_congr {g g' : Bytes} (h20 : g.take 20 = g'.take 20) (hlen : g.length = g'.length)
    (hrest : g.drop (hdrLen g) = g'.drop (hdrLen g')) (b : Bound) :
    (WellFormedForMe g b ↔ WellFormedForMe g' b) ∧ payloadAndSrc g = payloadAndSrc g' := by
  have hb : ∀ i, i < 20 → byteAt g i = byteAt g' i := fun i hi => by
    rw [← byteAt_take g hi, ← byteAt_take g' hi, h20]
  have hsrc : srcAddr g = srcAddr g' := by
    have := congrArg (fun l => (l.drop 12).take 4) h20
    simpa [srcAddr, List.drop_take, List.take_take] using this
  have hdst : dstAddr g = dstAddr g' := by
    have := congrArg (fun l => (l.drop 16).take 4) h20
    simpa [dstAddr, List.drop_take, List.take_take] using this
  have hi : ihl g = ihl g' := by simp only [ihl, hb 0 (by omega)]
  have hh : hdrLen g = hdrLen g' := by simp only [hdrLen, hi]
  have ht : totalLen g = totalLen g' := by simp only [totalLen, wordAt, hb 2 (by omega), hb 3 (by omega)]
  have hp : ipPayload g = ipPayload g' := by
    simp only [ipPayload, List.drop_take, hrest, ht]
    rw [hh]
  refine ⟨?_, ?_⟩
  · simp only [WellFormedForMe, WellFormed, ForMe, dstPort, version, proto, hb 0 (by omega), hb 9 (by omega),
      hlen, hi, hh, ht, hp, hdst]
  · simp only [payloadAndSrc, udpData, srcPort, hp, hsrc]

theorem options_irrelevant (h o o' rest : Bytes) (hh : h.length = 20) (ho : o'.length = o.length)
    (hl : 4 * (byteAt h 0 % 16) = 20 + o.length) (b : Bound) :
    (WellFormedForMe (h ++ (o ++ rest)) b ↔ WellFormedForMe (h ++ (o' ++ rest)) b) ∧
      payloadAndSrc (h ++ (o ++ rest)) = payloadAndSrc (h ++ (o' ++ rest)) := by
  have hd : ∀ x : Bytes, x.length = o.length → (h ++ (x ++ rest)).drop (hdrLen (h ++ (x ++ rest))) = rest := by
    intro x hx
    have : hdrLen (h ++ (x ++ rest)) = (h ++ x).length := by
      rw [← hdrLen_take _ (show 0 < 20 by omega), List.take_left' hh, List.length_append, hh, hx, ← hl]
      simp [hdrLen, ihl]
    rw [this, ← List.append_assoc, List.drop_left]
  exact wellFormedForMe_congr (by rw [List.take_left' hh, List.take_left' hh]) (by simp [ho])
    (by rw [hd o rfl, hd o' ho]) b

theorem specStep_congr {g g' : Bytes} (hne : g = [] ↔ g' = []) {b : Bound}
    (h : (WellFormedForMe g b ↔ WellFormedForMe g' b) ∧ payloadAndSrc g = payloadAndSrc g') (buflen : Nat) :
    specStep b buflen g = specStep b buflen g' := by
  have e := h.2
  simp only [payloadAndSrc, Prod.mk.injEq] at e
  simp only [specStep, hne, h.1, e]

end Dhcp.Raw
