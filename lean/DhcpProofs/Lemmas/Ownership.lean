import Dhcp.Ownership
/-
  Helper lemmas for C08: reading an owned leaf ignores the input buffer;
  writing to a cell no leaf lives in changes no leaf; a sound store-site table
  whose entries are all OWNED gives `AllOwned` (`allOwned_of_table`).
-/
namespace Dhcp.Ownership

theorem read_scribble_owned (m : Mem) (b : Bytes) (l : Prov) (h : l.isOwned = true) :
    read (scribble m b) l = read m l := by
  cases l with
  | owned c => rfl
  | view off len => simp [Prov.isOwned] at h

theorem contents_scribble (m : Mem) (b : Bytes) (o : Obj) (h : AllOwned o) :
    contents (scribble m b) o = contents m o :=
  List.map_congr_left fun l hl => read_scribble_owned m b l (h l hl)

theorem read_writeCell (m : Mem) (c : Nat) (b : Bytes) (l : Prov) (h : l ≠ .owned c) :
    read (writeCell m c b) l = read m l := by
  cases l with
  | owned c' =>
    have hne : c' ≠ c := fun e => h (by rw [e])
    simp [read, writeCell, hne]
  | view off len => rfl

theorem contents_writeCell (m : Mem) (c : Nat) (b : Bytes) (o : Obj) (h : Fresh c o) :
    contents (writeCell m c b) o = contents m o :=
  List.map_congr_left fun l hl => read_writeCell m c b l (h l hl)

theorem allOwned_of_table (tbl : List (String × Bool)) (ls : List TaggedLeaf)
    (hall : ∀ e ∈ tbl, e.2 = true) (hs : TableSound tbl ls) :
    AllOwned ⟨ls.map (·.prov)⟩ := by
  intro l hl
  simp only [List.mem_map] at hl
  obtain ⟨t, ht, rfl⟩ := hl
  obtain ⟨e, he, _, himp⟩ := hs t ht
  exact himp (hall e he)

end Dhcp.Ownership
