import DhcpProofs.Lemmas.V4Val
import DhcpProofs.Lemmas.V4Parse
/- C17: the link between a decoded packet (`dec4`, whose `Opts` identify nil and
empty values) and the accessor model's `GOpts` (which keeps nil-ness): the
option loop re-run with Go's `append` on possibly nil slices (`optsLoopG`)
builds exactly `Opts.toG` of what `optsLoop` builds. -/
namespace Dhcp.V4

theorem goBuf_nil : goBuf [] = none := rfl
theorem goBuf_cons (b : UInt8) (bs : Bytes) : goBuf (b :: bs) = some (b :: bs) := rfl

theorem Opts.toG_empty : Opts.empty.toG = GOpts.empty := rfl

theorem Opts.toG_get_none {o : Opts} {c : UInt8} (h : o.f c = none ∨ o.f c = some []) :
    o.toG.get c = none := by
  rcases h with h | h <;> simp [Opts.toG, GOpts.get, h, goBuf]

theorem Opts.toG_get_some {o : Opts} {c : UInt8} {v : Bytes} (h : o.f c = some v) (hv : v ≠ []) :
    o.toG.get c = some v := by
  cases v with
  | nil => exact absurd rfl hv
  | cons b bs => simp [Opts.toG, GOpts.get, h, goBuf]

theorem Opts.toG_get (o : Opts) (c : UInt8) : o.toG.get c = goBuf ((o.f c).getD []) := by
  cases h : o.f c with
  | none => simp [Opts.toG, GOpts.get, h, goBuf]
  | some v => simp [Opts.toG, GOpts.get, h]

theorem Opts.toG_no_empty (o : Opts) (c : UInt8) : o.toG.f c ≠ some (some []) := by
  cases h : o.f c with
  | none => simp [Opts.toG, h]
  | some v => cases v <;> simp [Opts.toG, h, goBuf]

theorem GOpts.ext {a b : GOpts} (h : ∀ c, a.f c = b.f c) : a = b := by
  cases a; cases b; congr; funext c; exact h c

theorem Opts.toG_app (o : Opts) (c : UInt8) (d : Bytes) : (o.app c d).toG = o.toG.app c d := by
  refine GOpts.ext fun k => ?_
  by_cases hk : k = c
  · subst hk
    simp only [Opts.toG, Opts.app, Opts.set, GOpts.app, GOpts.get, if_true, Option.map_some]
    match o.f k with
    | none | some [] | some (_ :: _) => simp [gAppend, goBuf]
  · simp [Opts.toG, Opts.app, Opts.set, GOpts.app, hk]

/-- the option loop with nil-ness builds `toG` of what the option loop without it builds: the two
are one program, and `toG` commutes with the one operation on the map (`toG_app`) -/
theorem optsLoopG_toG (fuel : Nat) (l : Lexer) (o : Opts) :
    optsLoopG fuel l o.toG = (optsLoop fuel l o).map (fun r => (r.1.toG, r.2)) := by
  fun_induction optsLoop fuel l o <;> simp_all [optsLoopG, Opts.toG_app]

theorem optsFromBytesG_toG (o : Opts) (data : Bytes) (ce : Bool) :
    optsFromBytesG o.toG data ce = (optsFromBytes o data ce).map Opts.toG := by
  unfold optsFromBytesG optsFromBytes
  rw [optsLoopG_toG]
  split
  · rfl
  · cases optsLoop (data.length + 1) (Lexer.new data) o with
    | none => rfl
    | some r => simp only [Option.map_some]; split <;> rfl

theorem decOptsG_of_dec4 {q : Bytes} {p : Pkt4} (h : dec4 q = .ok p) : decOptsG q = some p.opts.toG := by
  obtain ⟨_, _, o, ho, rfl⟩ := (dec4_ok_iff q p).mp h
  rw [decOptsG, ← Opts.toG_empty, optsFromBytesG_toG, ho]
  rfl

/-! One generic step for every typed accessor: on a packet that came out of the
decoder, `Options.Get(c)` is the RFC 3396-reassembled value when that is
non-empty and nil otherwise (`decoded_get`).  `decoded_lift` turns the three
`GOpts` statements of an accessor whose type rejects the empty value (so the
zero-length option gives the malformed default, which equals the absent one)
into the statement on the decoded packet; `decoded_lift_str` does the same for
the string accessors (empty value = "" = the absent default).  Accessors that
return something other than nil on an EMPTY non-nil value (parameter request
list: empty list; relay agent information: empty map; user class: one empty
class, by the fallback - the spec `Val4.userClasses` rejects the empty value;
domain search: empty list) use `decoded_get` directly and state the zero-length
case as its own clause. -/

theorem decoded_get {q : Bytes} {p : Pkt4} {g : GOpts} (h : dec4 q = .ok p)
    (hg : decOptsG q = some g) (c : UInt8) :
    (∀ v, p.opts.f c = some v → v ≠ [] → g.get c = some v) ∧
    (p.opts.f c = none ∨ p.opts.f c = some [] → g.get c = none) := by
  rw [decOptsG_of_dec4 h] at hg; cases hg
  exact ⟨fun _ hv hne => Opts.toG_get_some hv hne, fun hc => Opts.toG_get_none hc⟩

theorem decoded_lift {α β : Type} (c : UInt8) (spec : Bytes → Option α) (acc : GOpts → β)
    (ok : α → β) (dflt : β) (hempty : spec [] = none)
    (wf : ∀ o v x, o.get c = some v → spec v = some x → acc o = ok x)
    (bad : ∀ o v, o.get c = some v → spec v = none → acc o = dflt)
    (absent : ∀ o, o.get c = none → acc o = dflt)
    {q : Bytes} {p : Pkt4} {g : GOpts} (h : dec4 q = .ok p) (hg : decOptsG q = some g) :
    (∀ v x, p.opts.f c = some v → spec v = some x → acc g = ok x) ∧
    (∀ v, p.opts.f c = some v → spec v = none → acc g = dflt) ∧
    (p.opts.f c = none → acc g = dflt) := by
  obtain ⟨hsome, hnone⟩ := decoded_get h hg c
  refine ⟨fun v x hv hs => ?_, fun v hv hs => ?_, fun hn => absent g (hnone (.inl hn))⟩
  · have hne : v ≠ [] := by intro e; subst e; rw [hempty] at hs; cases hs
    exact wf g v x (hsome v hv hne) hs
  · by_cases hne : v = []
    · subst hne; exact absent g (hnone (.inr hv))
    · exact bad g v (hsome v hv hne) hs

theorem decoded_lift_str (c : UInt8) (spec : Bytes → Option Bytes) (acc : GOpts → Bytes)
    (hempty : spec [] = some [])
    (wf : ∀ o v x, o.get c = some v → spec v = some x → acc o = x)
    (absent : ∀ o, o.get c = none → acc o = [])
    {q : Bytes} {p : Pkt4} {g : GOpts} (h : dec4 q = .ok p) (hg : decOptsG q = some g) :
    (∀ v x, p.opts.f c = some v → spec v = some x → acc g = x) ∧
    (p.opts.f c = none → acc g = []) := by
  obtain ⟨hsome, hnone⟩ := decoded_get h hg c
  refine ⟨fun v x hv hs => ?_, fun hn => absent g (hnone (.inl hn))⟩
  by_cases hne : v = []
  · subst hne; rw [hempty] at hs; cases hs; exact absent g (hnone (.inr hv))
  · exact wf g v x (hsome v hv hne) hs

end Dhcp.V4
