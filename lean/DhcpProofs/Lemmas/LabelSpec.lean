import DhcpProofs.Lemmas.Label
import Dhcp.Spec.Name
/-
  The model of `labelsFromBytes` against the declarative spec
  `Dhcp.Spec.Name.DecodesTo`: how the loop's running label relates to `dotted`,
  how the loop moves over a run of labels, and completeness (`names_complete`).
-/
namespace Dhcp.Label
open Dhcp.Spec.Name

theorem labelSeq_nonempty {bs rest : Bytes} {ls : List Bytes} (h : LabelSeq bs ls rest) :
    ∀ l ∈ ls, l ≠ [] := by
  induction h with
  | nil rest => simp
  | cons l ls tail rest h1 h2 _ ih =>
    intro x hx
    rcases List.mem_cons.mp hx with rfl | hx
    · intro e; rw [e] at h1; simp at h1
    · exact ih x hx

theorem dotted_eq_nil {ls : List Bytes} (hne : ∀ l ∈ ls, l ≠ []) : dotted ls = [] ↔ ls = [] := by
  cases ls with
  | nil => simp [dotted]
  | cons a t =>
    have ha : a ≠ [] := hne a (by simp)
    cases t with
    | nil => simp [dotted, ha]
    | cons a' t' => simp [dotted]

theorem dotted_append_singleton (ls : List Bytes) (l : Bytes) (h : ls ≠ []) :
    dotted (ls ++ [l]) = dotted ls ++ 46 :: l := by
  induction ls with
  | nil => exact absurd rfl h
  | cons a t ih =>
    cases t with
    | nil => simp [dotted]
    | cons a' t' =>
      have := ih (by simp)
      simp only [List.cons_append, dotted] at this ⊢
      rw [this]; simp

theorem appendLabel_dotted {pre : List Bytes} (hne : ∀ l ∈ pre, l ≠ []) (l : Bytes) :
    appendLabel (dotted pre) l = dotted (pre ++ [l]) := by
  unfold appendLabel
  by_cases hp : pre = []
  · subst hp; simp [dotted]
  · have : dotted pre ≠ [] := fun e => hp ((dotted_eq_nil hne).mp e)
    simp only [this, ne_eq, not_false_eq_true, if_true, dotted_append_singleton pre l hp]
    simp

theorem dotted_length_le_append : ∀ (a b : List Bytes), (dotted a).length ≤ (dotted (a ++ b)).length
  | [], _ => Nat.zero_le _
  | [l], [] => Nat.le_refl _
  | [l], _ :: _ => by simp [dotted]
  | l :: l' :: a, b => by
    have := dotted_length_le_append (l' :: a) b
    simp only [List.cons_append, dotted, List.length_append, List.length_cons] at this ⊢
    omega

/-- The loop reads a run of labels `ls` and goes on from wherever the run ends, its label grown
from `dotted pre` to `dotted (pre ++ ls)`. -/
theorem runs_labels {buf : Bytes} {op : Nat} {hp : Bool} {acc : List Bytes} {r : Res (List Bytes)}
    {bs rest : Bytes} {ls : List Bytes} (h : LabelSeq bs ls rest) :
    ∀ (pos : Nat) (pre : List Bytes), buf.drop pos = bs → (∀ l ∈ pre, l ≠ []) →
      (dotted (pre ++ ls)).length ≤ maxNameLength →
      (∀ pos', buf.drop pos' = rest → Runs buf ⟨pos', op, dotted (pre ++ ls), hp, acc⟩ r) →
      Runs buf ⟨pos, op, dotted pre, hp, acc⟩ r := by
  induction h with
  | nil rest =>
    intro pos pre hd _ _ k
    simpa using k pos hd
  | cons l ls tail rest h1 h2 _ ih =>
    intro pos pre hd hpre hlen k
    have hl : l ≠ [] := fun e => by rw [e] at h1; simp at h1
    have e : pre ++ l :: ls = pre ++ [l] ++ ls := by simp
    rw [e] at hlen k
    have h3 : (appendLabel (dotted pre) l).length ≤ maxNameLength := by
      rw [appendLabel_dotted hpre]
      exact Nat.le_trans (dotted_length_le_append _ ls) hlen
    refine Runs.of_next (step_of_iter (.label hd h1 h2 h3) nofun) ?_
    rw [appendLabel_dotted hpre]
    exact ih _ _ (drop_add_of_append (drop_cons_succ hd))
      (fun x hx => (List.mem_append.mp hx).elim (hpre x) (fun hx => by simp at hx; exact hx ▸ hl)) hlen k

theorem names_complete {msg bs : Bytes} {ns : List Bytes} (h : Names msg bs ns) :
    ∀ (pos op : Nat) (acc : List Bytes), msg.drop pos = bs →
      Runs msg ⟨pos, op, [], false, acc⟩ (.ok (acc ++ ns)) := by
  induction h with
  | done =>
    intro pos op acc hd
    exact Runs.of_done (step_ok_iff.mpr ⟨hd, rfl, by simp⟩)
  | partialName bs ls hne hseq hlen =>
    intro pos op acc hd
    have hnn : dotted ls ≠ [] := fun e => hne ((dotted_eq_nil (labelSeq_nonempty hseq)).mp e)
    refine runs_labels hseq pos [] hd (by simp) hlen fun pos' hd' => ?_
    exact Runs.of_done (step_ok_iff.mpr ⟨hd', rfl, by simp [hnn]⟩)
  | plain bs ls rest ns hseq hlen _ ih =>
    intro pos op acc hd
    refine runs_labels hseq pos [] hd (by simp) hlen fun pos' hd' => ?_
    have := ih (pos' + 1) op (acc ++ [dotted ls]) (drop_cons_succ hd')
    rw [List.append_assoc] at this
    exact Runs.of_next (step_of_iter (.zero hd' rfl) nofun) this
  | ptr bs ls b0 b1 rest ls' rest' ns hseq hptr hoff hseq' hlen _ ih =>
    intro pos op acc hd
    have hls := labelSeq_nonempty hseq
    refine runs_labels hseq pos [] hd (by simp)
      (Nat.le_trans (dotted_length_le_append ls ls') hlen) fun pos' hd' => ?_
    refine Runs.of_next (step_of_iter (.ptr hd' hptr rfl) nofun) ?_
    refine runs_labels hseq' _ ls rfl hls hlen fun pos'' hd'' => ?_
    refine Runs.of_next (step_of_iter (.zeroPtr hd'' rfl) nofun) ?_
    have := ih (pos' + 2) (pos' + 2) (acc ++ [dotted (ls ++ ls')]) (drop_cons_succ (drop_cons_succ hd'))
    rw [List.append_assoc] at this
    exact this

end Dhcp.Label
