import DhcpProofs.Lemmas.V6LeafInv
import DhcpProofs.Lemmas.V4Fix
/-
  C06 for DHCPv6: every DECODED message lies in the round-trip domain `WFMsg`
  (after the one DHCPv4 normalisation `V4.cutNames` on embedded DHCPv4
  messages), hence decode → encode → decode is a fixpoint.

  What decoding does not guarantee, and is therefore a hypothesis (`FitsLen`):
  an option that contains an embedded DHCPv4 message (option 87, possibly
  nested in containers / relay messages) is re-encoded with the inner message
  re-padded to 300 bytes, so its new value length need not fit the 16-bit
  length field any more.  For options WITHOUT an embedded DHCPv4 message the
  re-encoded value is never longer than the original one (proved here), so
  nothing is assumed about them.
-/
namespace Dhcp.V6
open Dhcp.Spec

mutual
/-- `V4.cutNames` on every embedded DHCPv4 message of an option -/
def cutOpt : Opt6 → Opt6
  | .iana i t1 t2 os => .iana i t1 t2 (cutOpts os)
  | .iata i os => .iata i (cutOpts os)
  | .iaaddr ip p v os => .iaaddr ip p v (cutOpts os)
  | .relayMsg m => .relayMsg (cutNames6 m)
  | .iapd i t1 t2 os => .iapd i t1 t2 (cutOpts os)
  | .iaprefix p v pfx os => .iaprefix p v pfx (cutOpts os)
  | .fourRD os => .fourRD (cutOpts os)
  | .dhcpv4Msg p => .dhcpv4Msg (V4.cutNames p)
  | .clientID d => .clientID d
  | .serverID d => .serverID d
  | .oro cs => .oro cs
  | .elapsed d => .elapsed d
  | .status c m => .status c m
  | .userClass c => .userClass c
  | .vendorClass e d => .vendorClass e d
  | .vendorOpts e os => .vendorOpts e os
  | .interfaceID i => .interfaceID i
  | .dns ips => .dns ips
  | .domainSearch l => .domainSearch l
  | .infoRefresh d => .infoRefresh d
  | .remoteID e i => .remoteID e i
  | .fqdn f n => .fqdn f n
  | .ntp s => .ntp s
  | .bootfileURL u => .bootfileURL u
  | .bootfileParam ps => .bootfileParam ps
  | .archType a => .archType a
  | .nii a b c => .nii a b c
  | .clientLLA h a => .clientLLA h a
  | .dhcp4o6Server ips => .dhcp4o6Server ips
  | .fourRDMapRule a b c d e g => .fourRDMapRule a b c d e g
  | .fourRDNonMapRule a b c => .fourRDNonMapRule a b c
  | .relayPort p => .relayPort p
  | .generic c d => .generic c d
def cutOpts : List Opt6 → List Opt6
  | [] => []
  | o :: os => cutOpt o :: cutOpts os
def cutNames6 : Msg6 → Msg6
  | .msg t x os => .msg t x (cutOpts os)
  | .relay t h l p os => .relay t h l p (cutOpts os)
end

mutual
def hasV4 : Opt6 → Bool
  | .iana _ _ _ os => hasV4L os
  | .iata _ os => hasV4L os
  | .iaaddr _ _ _ os => hasV4L os
  | .relayMsg m => hasV4M m
  | .iapd _ _ _ os => hasV4L os
  | .iaprefix _ _ _ os => hasV4L os
  | .fourRD os => hasV4L os
  | .dhcpv4Msg _ => true
  | .clientID _ | .serverID _ | .oro _ | .elapsed _ | .status .. | .userClass _ | .vendorClass ..
  | .vendorOpts .. | .interfaceID _ | .dns _ | .domainSearch _ | .infoRefresh _ | .remoteID ..
  | .fqdn .. | .ntp _ | .bootfileURL _ | .bootfileParam _ | .archType _ | .nii .. | .clientLLA ..
  | .dhcp4o6Server _ | .fourRDMapRule .. | .fourRDNonMapRule .. | .relayPort _ | .generic .. => false
def hasV4L : List Opt6 → Bool
  | [] => false
  | o :: os => hasV4 o || hasV4L os
def hasV4M : Msg6 → Bool
  | .msg _ _ os => hasV4L os
  | .relay _ _ _ _ os => hasV4L os
end

mutual
/-- **side condition (i)**: every option that contains an embedded DHCPv4
message still fits its 16-bit length field when re-encoded -/
def FitsLen : Opt6 → Prop
  | .iana _ _ _ os => FitsLenL os
  | .iata _ os => FitsLenL os
  | .iaaddr _ _ _ os => FitsLenL os
  | .relayMsg m => FitsLenM m
  | .iapd _ _ _ os => FitsLenL os
  | .iaprefix _ _ _ os => FitsLenL os
  | .fourRD os => FitsLenL os
  | .dhcpv4Msg _ | .clientID _ | .serverID _ | .oro _ | .elapsed _ | .status .. | .userClass _
  | .vendorClass .. | .vendorOpts .. | .interfaceID _ | .dns _ | .domainSearch _ | .infoRefresh _
  | .remoteID .. | .fqdn .. | .ntp _ | .bootfileURL _ | .bootfileParam _ | .archType _ | .nii ..
  | .clientLLA .. | .dhcp4o6Server _ | .fourRDMapRule .. | .fourRDNonMapRule .. | .relayPort _
  | .generic .. => True
def FitsLenL : List Opt6 → Prop
  | [] => True
  | o :: os => (hasV4 o = true → (encOpt o).length < 65536) ∧ FitsLen o ∧ FitsLenL os
def FitsLenM : Msg6 → Prop
  | .msg _ _ os => FitsLenL os
  | .relay _ _ _ _ os => FitsLenL os
end

mutual
/-- **side condition (ii)**: no embedded DHCPv4 message has a name filling its
whole field (64-byte sname / 128-byte file without NUL) -/
def NamesOK : Opt6 → Prop
  | .iana _ _ _ os => NamesOKL os
  | .iata _ os => NamesOKL os
  | .iaaddr _ _ _ os => NamesOKL os
  | .relayMsg m => NamesOKM m
  | .iapd _ _ _ os => NamesOKL os
  | .iaprefix _ _ _ os => NamesOKL os
  | .fourRD os => NamesOKL os
  | .dhcpv4Msg p => p.sname.length ≤ 63 ∧ p.file.length ≤ 127
  | .clientID _ | .serverID _ | .oro _ | .elapsed _ | .status .. | .userClass _
  | .vendorClass .. | .vendorOpts .. | .interfaceID _ | .dns _ | .domainSearch _ | .infoRefresh _
  | .remoteID .. | .fqdn .. | .ntp _ | .bootfileURL _ | .bootfileParam _ | .archType _ | .nii ..
  | .clientLLA .. | .dhcp4o6Server _ | .fourRDMapRule .. | .fourRDNonMapRule .. | .relayPort _
  | .generic .. => True
def NamesOKL : List Opt6 → Prop
  | [] => True
  | o :: os => NamesOK o ∧ NamesOKL os
def NamesOKM : Msg6 → Prop
  | .msg _ _ os => NamesOKL os
  | .relay _ _ _ _ os => NamesOKL os
end

def Fits (o : Opt6) : Prop := FitsLen o ∧ NamesOK o
def FitsL (os : List Opt6) : Prop := FitsLenL os ∧ NamesOKL os
def FitsM (m : Msg6) : Prop := FitsLenM m ∧ NamesOKM m

theorem cutOpt_code (o : Opt6) : (cutOpt o).code = o.code := by
  cases o <;> rfl

theorem enc4Bytes_cutNames (p : V4.Pkt4) : enc4Bytes (V4.cutNames p) = enc4Bytes p := by
  simp only [enc4Bytes, V4.enc4_cutNames]

mutual
theorem encOpt_cut (o : Opt6) : encOpt (cutOpt o) = encOpt o := by
  cases o with
  | iana _ _ _ os | iata _ os | iaaddr _ _ _ os | iapd _ _ _ os | iaprefix _ _ _ os | fourRD os =>
    simp only [cutOpt, encOpt, encOpts_cut os]
  | relayMsg m => exact encMsg_cut m
  | dhcpv4Msg p => exact enc4Bytes_cutNames p
  | _ => rfl
theorem encOpts_cut : (os : List Opt6) → encOpts (cutOpts os) = encOpts os := fun os => by
  cases os with
  | nil => rfl
  | cons o os => simp only [cutOpts, encOpts, cutOpt_code, encOpt_cut o, encOpts_cut os]
theorem encMsg_cut (m : Msg6) : encMsg (cutNames6 m) = encMsg m := by
  cases m with
  | msg t x os | relay t h l p os => simp only [cutNames6, encMsg, encOpts_cut os]
end

mutual
theorem cutOpt_id (o : Opt6) (h : NamesOK o) : cutOpt o = o := by
  cases o with
  | iana _ _ _ os | iata _ os | iaaddr _ _ _ os | iapd _ _ _ os | iaprefix _ _ _ os | fourRD os =>
    simp only [cutOpt, cutOpts_id os h]
  | relayMsg m => simp only [cutOpt, cutNames6_id m h]
  | dhcpv4Msg p => simp only [cutOpt, V4.cutNames_id_of_short p h.1 h.2]
  | _ => rfl
theorem cutOpts_id (os : List Opt6) (h : NamesOKL os) : cutOpts os = os := by
  cases os with
  | nil => rfl
  | cons o os => simp only [cutOpts, cutOpt_id o h.1, cutOpts_id os h.2]
theorem cutNames6_id (m : Msg6) (h : NamesOKM m) : cutNames6 m = m := by
  cases m with
  | msg t x os | relay t hh l p os => simp only [cutNames6, cutOpts_id os h]
end

mutual
theorem noV4_fits : (o : Opt6) → hasV4 o = false → FitsLen o ∧ NamesOK o := fun o h => by
  cases o with
  | iana _ _ _ os | iata _ os | iaaddr _ _ _ os | iapd _ _ _ os | iaprefix _ _ _ os | fourRD os =>
    exact noV4_fitsL os h
  | relayMsg m => exact noV4_fitsM m h
  | dhcpv4Msg => cases h
  | _ => exact ⟨trivial, trivial⟩
theorem noV4_fitsL (os : List Opt6) (h : hasV4L os = false) : FitsLenL os ∧ NamesOKL os := by
  cases os with
  | nil => exact ⟨trivial, trivial⟩
  | cons o os =>
    have ⟨ho, hos⟩ := Bool.or_eq_false_iff.mp h
    have ⟨f1, n1⟩ := noV4_fits o ho
    have ⟨f2, n2⟩ := noV4_fitsL os hos
    exact ⟨⟨fun hv => (nomatch ho.symm.trans hv), f1, f2⟩, n1, n2⟩
theorem noV4_fitsM (m : Msg6) (h : hasV4M m = false) : FitsLenM m ∧ NamesOKM m := by
  cases m with
  | msg _ _ os | relay _ _ _ _ os => exact noV4_fitsL os h
end

theorem leaf_cut {o : Opt6} (hs : isSimple o = true) (hn : ∀ p, o ≠ .dhcpv4Msg p) : cutOpt o = o := by
  cases o with
  | dhcpv4Msg p => exact absurd rfl (hn p)
  | clientID | serverID | iana | iata | iaaddr | relayMsg | iapd | iaprefix | fourRD => cases hs
  | _ => rfl

theorem pfxOK_decoded (len : UInt8) (ip : Bytes) (hl : len.toNat ≤ 128) (hip : ip.length = 16) :
    PfxOK (if len = 0 then none else some (len.toNat, some ip)) := by
  by_cases h0 : len = 0
  · simp only [h0, if_true, PfxOK]
  · simp only [h0, if_false, PfxOK]
    refine ⟨?_, hl, ip, rfl, hip⟩
    have : len.toNat ≠ 0 := by
      intro h; apply h0; apply UInt8.toNat_inj.mp; simpa using h
    omega

mutual
/-- The two halves need each other: the length bound is what puts a re-encoded option
without an embedded DHCPv4 message back under its 16-bit length in `WFOpts`. -/
theorem decoded_opt {c : Nat} {v : Bytes} {o : Opt6} (h : POpt c v o) (hc : c < 65536) (hf : FitsLen o) :
    WFOpt (cutOpt o) ∧ (hasV4 o = false → (encOpt o).length ≤ v.length) := by
  cases h with
  | leaf hcc hd =>
    have hl := decSimple_sound c v o hcc hd
    by_cases h87 : c = 87
    · subst h87
      cases hl with
      | dhcpv4Msg hp =>
        have hp := V4.dec4_complete _ _ hp
        exact ⟨⟨V4.decoded_encodable v _ hp, V4.norm_decoded v _ hp⟩, nofun⟩
      | generic hn => exact absurd (by decide) hn
    · rw [leaf_cut hl.isSimple fun p e => h87 (by rw [← hl.code_eq, e]; rfl)]
      exact ⟨(wf_of_pleaf hc h87 hl).1, fun _ => (wf_of_pleaf hc h87 hl).2⟩
  | clientID hd | serverID hd =>
    obtain ⟨h1, h2⟩ := (PDUID_iff_OK v _).mp (decDUID_sound v _ hd)
    exact ⟨h1, fun _ => Nat.le_of_eq (congrArg _ h2)⟩
  | iana hi h1 h2 hs | iapd hi h1 h2 hs =>
    obtain ⟨hw, hl⟩ := decoded_opts hs hf
    refine ⟨⟨hi, ⟨_, h1, rfl⟩, ⟨_, h2, rfl⟩, hw⟩, fun hv => ?_⟩
    have := hl hv
    simp only [encOpt, List.length_append, copyInto_length, encDur_length, be32_length, hi]; omega
  | iata hi hs =>
    obtain ⟨hw, hl⟩ := decoded_opts hs hf
    refine ⟨⟨hi, hw⟩, fun hv => ?_⟩
    have := hl hv
    simp only [encOpt, List.length_append, copyInto_length, hi]; omega
  | iaaddr hi h1 h2 hs =>
    obtain ⟨hw, hl⟩ := decoded_opts hs hf
    refine ⟨⟨⟨_, rfl, hi⟩, ⟨_, h1, rfl⟩, ⟨_, h2, rfl⟩, hw⟩, fun hv => ?_⟩
    have := hl hv
    simp only [encOpt, List.length_append, write16_length, encDur_length, be32_length, hi]; omega
  | iaprefix h1 h2 hlen hi hs =>
    obtain ⟨hw, hl⟩ := decoded_opts hs hf
    refine ⟨⟨⟨_, h1, rfl⟩, ⟨_, h2, rfl⟩, pfxOK_decoded _ _ hlen hi, hw⟩, fun hv => ?_⟩
    have := hl hv
    simp only [encOpt, List.length_append, List.length_cons, encDur_length, be32_length, encPfx_len, hi]
    omega
  | relayMsg hm => exact decoded_msg hm hf
  | fourRD hs => exact decoded_opts hs hf
theorem decoded_opts {d : Bytes} {os : List Opt6} (h : POpts d os) (hf : FitsLenL os) :
    WFOpts (cutOpts os) ∧ (hasV4L os = false → (encOpts os).length ≤ d.length) := by
  cases h with
  | nil => exact ⟨trivial, fun _ => Nat.le_refl _⟩
  | @cons _ v _ o os hc hv hp hs =>
    obtain ⟨hfl, hfo, hfs⟩ := hf
    obtain ⟨hw, hl⟩ := decoded_opt hp hc hfo
    obtain ⟨hws, hls⟩ := decoded_opts hs hfs
    simp only [cutOpts, WFOpts, encOpt_cut, hasV4L, encOpts, Bool.or_eq_false_iff]
    refine ⟨⟨hw, ?_, hws⟩, fun hv4 => ?_⟩
    · cases h4 : hasV4 o with
      | true => exact hfl h4
      | false => have := hl h4; omega
    · have := hl hv4.1
      have := hls hv4.2
      simp only [List.length_append, tlv_length]; omega
theorem decoded_msg {b : Bytes} {m : Msg6} (h : PMsg b m) (hf : FitsLenM m) :
    WFMsg (cutNames6 m) ∧ (hasV4M m = false → (encMsg m).length ≤ b.length) := by
  cases h with
  | msg ht hx hs =>
    obtain ⟨hw, hl⟩ := decoded_opts hs hf
    refine ⟨⟨ht, hx, hw⟩, fun hv => ?_⟩
    have := hl hv
    simp only [encMsg, List.length_cons, List.length_append, copyInto_length, hx]; omega
  | relay ht h1 h2 hs =>
    obtain ⟨hw, hl⟩ := decoded_opts hs hf
    refine ⟨⟨ht, ⟨_, rfl, h1⟩, ⟨_, rfl, h2⟩, hw⟩, fun hv => ?_⟩
    have := hl hv
    simp only [encMsg, List.length_cons, List.length_append, write16_length, h1, h2]; omega
end

/-- C06 (DHCPv6), normalised form -/
theorem v6_fixpoint_norm (b : Bytes) (m : Msg6) (h : dec6 b = .ok m) (hf : FitsLenM m) :
    dec6 (encMsg m) = .ok (cutNames6 m) ∧ encMsg (cutNames6 m) = encMsg m := by
  have hw := (decoded_msg ((dec6_iff b m).mp h) hf).1
  have := dec6_encMsg (cutNames6 m) hw
  rw [encMsg_cut] at this
  exact ⟨this, encMsg_cut m⟩

/-- C06 (DHCPv6), exact form -/
theorem v6_fixpoint (b : Bytes) (m : Msg6) (h : dec6 b = .ok m) (hf : FitsM m) :
    dec6 (encMsg m) = .ok m := by
  have := (v6_fixpoint_norm b m h hf.1).1
  rwa [cutNames6_id m hf.2] at this

end Dhcp.V6
