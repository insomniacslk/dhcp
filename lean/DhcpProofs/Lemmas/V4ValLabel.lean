import DhcpProofs.Lemmas.V4ValSetGet
import DhcpProofs.Lemmas.LabelApi
/-
  C17 helper lemmas: DomainSearch / OptDomainSearch through the
  rfc1035label model (C19) and its API lemmas.
-/
namespace Dhcp.V4
open Dhcp.Spec.Name Dhcp.Label

theorem domainSearch_of_fromBytes (o : GOpts) (v : Bytes) (l : Labels)
    (h : o.get Code.domainSearch = some v) (hl : Label.fromBytes v = .ok l) :
    Acc.domainSearch o = .ok (some l) := by
  simp [Acc.domainSearch, h, hl]

theorem labelToBytes_ne_nil (n : Bytes) : labelToBytes n ≠ [] := by
  unfold labelToBytes
  split <;> simp

theorem labelsToBytes_ne_nil {ns : List Bytes} (h : ns ≠ []) : labelsToBytes ns ≠ [] :=
  flatMap_ne_nil h fun n _ => labelToBytes_ne_nil n

theorem labelsGoBytes_new (ns : List Bytes) :
    labelsGoBytes { original := none, labels := ns } = .ok (goBuf (labelsToBytes ns)) := by
  simp [labelsGoBytes, goBytes, labelsFromBytes_nil]

theorem labelsGoBytes_unmodified {b : Bytes} {l : Labels} (h : Label.fromBytes b = .ok l) :
    labelsGoBytes l = .ok (some b) := by
  obtain ⟨h1, h2⟩ := fromBytes_eq_ok h
  simp [labelsGoBytes, h2, goBytes, h1]

theorem labelsGoBytes_edited {b : Bytes} {l : Labels} (h : Label.fromBytes b = .ok l) {ns' : List Bytes}
    (hne : ns' ≠ l.labels) :
    labelsGoBytes { l with labels := ns' } = .ok (goBuf (labelsToBytes ns')) := by
  obtain ⟨h1, h2⟩ := fromBytes_eq_ok h
  have : ¬ l.labels = ns' := fun e => hne e.symm
  simp [labelsGoBytes, h2, goBytes, h1, this]

theorem domainSearch_of_encoded (o : GOpts) (ns : List Bytes) (hv : ValidNames ns) (hne : ns ≠ []) :
    Acc.domainSearch (o.update Code.domainSearch (goBuf (labelsToBytes ns))) =
      .ok (some { original := some (labelsToBytes ns), labels := ns }) := by
  rw [goBuf_ne_nil (labelsToBytes_ne_nil hne)]
  exact domainSearch_of_fromBytes _ _ _ (GOpts.get_update_same _ _ _) (fromBytes_labelsToBytes ns hv)

end Dhcp.V4
