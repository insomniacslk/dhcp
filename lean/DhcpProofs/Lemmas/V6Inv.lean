import Dhcp.V6.Domain
import DhcpProofs.Lemmas.V6Frame
import DhcpProofs.Lemmas.V6Basic
/-
  Inversion of `decDur` and the item loops of the DHCPv6 decoders: when
  the final Lexer carries no error, every read succeeded and the input is
  exactly the concatenation of what was read.  (The converse direction of
  `u16Loop_flatMap`, `ip16Loop_flatMap`, `lenPrefLoop_lenPref` of V6Simple.lean; the reads themselves are inverted in
  Basic.lean.)  In the same direction for sub-option lists: a tiling whose options determine their code and
  value is the `flatMap` of their TLVs (`Tiles_flatMap`; its converse `Tiles_of_flatMap` is in V6EncGrammar.lean).
-/
namespace Dhcp.V6
open Dhcp.Spec

theorem decDur_spec {l : Lexer} (he : (decDur l).2.err = false) :
    l.err = false ∧ ∃ s : Nat, s < 4294967296 ∧ (decDur l).1 = (s : Int) * second ∧
      l.data = be32 s ++ (decDur l).2.data :=
  have ⟨h0, hs, hd⟩ := Lexer.read32_spec (l := l) he
  ⟨h0, _, hs, rfl, hd⟩

theorem u16Loop_spec : ∀ (fuel : Nat) (l : Lexer) (acc : List Nat), l.data.length < fuel →
    ∃ xs, (u16Loop fuel l acc).1 = acc ++ xs ∧ (∀ c ∈ xs, c < 65536) ∧
      (u16Loop fuel l acc).2.err = l.err ∧ l.data = xs.flatMap be16 ++ (u16Loop fuel l acc).2.data := by
  intro fuel
  induction fuel with
  | zero => intro l acc hf; omega
  | succ f ih =>
    intro l acc hf
    unfold u16Loop
    split
    · rename_i hh
      dsimp only
      obtain ⟨hlt0, hd0, he0⟩ := Lexer.read16_of_le (of_decide_eq_true hh)
      obtain ⟨xs, e1, hlt, he, hd⟩ := ih l.read16.2 (acc ++ [l.read16.1]) (by
        have := congrArg List.length hd0
        simp only [List.length_append, be16_length] at this; omega)
      exact ⟨l.read16.1 :: xs, by rw [e1, List.append_assoc]; rfl, List.forall_mem_cons.mpr ⟨hlt0, hlt⟩,
        he.trans he0, by rw [List.flatMap_cons, List.append_assoc, ← hd, ← hd0]⟩
    · exact ⟨[], by simp, by simp, rfl, by simp⟩

theorem ip16Loop_spec : ∀ (fuel : Nat) (l : Lexer) (acc : List IP), l.data.length < fuel →
    ∃ xs, (ip16Loop fuel l acc).1 = acc ++ xs ∧ (∀ ip ∈ xs, IP16 ip) ∧
      (ip16Loop fuel l acc).2.err = l.err ∧ l.data = xs.flatMap writeTo16 ++ (ip16Loop fuel l acc).2.data := by
  intro fuel
  induction fuel with
  | zero => intro l acc hf; omega
  | succ f ih =>
    intro l acc hf
    unfold ip16Loop
    split
    · rename_i hh
      dsimp only
      obtain ⟨a, ea, ha, hd0, he0⟩ := Lexer.copyN_of_le (n := 16) (of_decide_eq_true hh)
      obtain ⟨xs, e1, hok, he, hd⟩ := ih (l.copyN 16).2 (acc ++ [(l.copyN 16).1]) (by
        have := congrArg List.length hd0
        simp only [List.length_append, ha] at this; omega)
      exact ⟨some a :: xs, by rw [e1, ea, List.append_assoc]; rfl,
        List.forall_mem_cons.mpr ⟨⟨a, rfl, ha⟩, hok⟩, he.trans he0,
        by rw [List.flatMap_cons, writeTo16_some ha, List.append_assoc, ← hd, ← hd0]⟩
    · exact ⟨[], by simp, by simp, rfl, by simp⟩

theorem lenPrefLoop_err : ∀ (fuel : Nat) (l : Lexer) (acc : List Bytes), l.err = true →
    (lenPrefLoop fuel l acc).2.err = true := by
  intro fuel
  induction fuel with
  | zero => intro l acc h; exact h
  | succ f ih =>
    intro l acc h
    unfold lenPrefLoop
    split
    · exact ih _ _ (Lexer.consume_err _ _ (Lexer.read16_err l h))
    · exact h

theorem lenPrefLoop_spec : ∀ (fuel : Nat) (l : Lexer) (acc : List Bytes), l.data.length < fuel →
    (lenPrefLoop fuel l acc).2.err = false →
    ∃ xs, (lenPrefLoop fuel l acc).1 = acc ++ xs ∧ ItemsOK xs ∧ l.err = false ∧
      l.data = lenPref xs ++ (lenPrefLoop fuel l acc).2.data := by
  intro fuel
  induction fuel with
  | zero => intro l acc hf; omega
  | succ f ih =>
    intro l acc hf
    unfold lenPrefLoop
    split
    · dsimp only
      intro he'
      -- the loop keeps the sticky error, so length and item were read without one
      have he : (l.read16.2.copyN l.read16.1).2.err = false :=
        Bool.eq_false_iff.mpr fun e => by rw [lenPrefLoop_err _ _ _ e] at he'; cases he'
      obtain ⟨he1, a, ea, ha, hd1⟩ := Lexer.copyN_spec he
      obtain ⟨h0, hlt0, hd0⟩ := Lexer.read16_spec he1
      obtain ⟨xs, e1, hok, _, hd⟩ := ih (l.read16.2.copyN l.read16.1).2 _ (by
        have := congrArg List.length hd0
        have := congrArg List.length hd1
        simp only [List.length_append, be16_length] at *; omega) he'
      exact ⟨a :: xs, by rw [e1, ea, List.append_assoc]; rfl,
        List.forall_mem_cons.mpr ⟨ha ▸ hlt0, hok⟩, h0,
        by rw [lenPref_cons, ha, List.append_assoc, List.append_assoc, ← hd, ← hd1, ← hd0]⟩
    · intro he'
      exact ⟨[], by simp, by simp [ItemsOK], he', by simp [lenPref]⟩

theorem Tiles_flatMap {α : Type} {P : Nat → Bytes → α → Prop} (code : α → Nat) (val : α → Bytes)
    (Q : α → Prop)
    (hP : ∀ c v o, c < 65536 → v.length < 65536 → P c v o → code o = c ∧ val o = v ∧ Q o)
    {d : Bytes} {os : List α} (h : Tiles P d os) :
    d = os.flatMap (fun o => tlv (code o) (val o)) ∧
      ∀ o ∈ os, code o < 65536 ∧ (val o).length < 65536 ∧ Q o := by
  induction h with
  | nil => exact ⟨by simp, by simp⟩
  | @cons c v rest o os hc hv hp _ ih =>
    obtain ⟨h1, h2, h3⟩ := hP c v o hc hv hp
    obtain ⟨e, hall⟩ := ih
    refine ⟨by simp only [List.flatMap_cons, h1, h2, ← e], ?_⟩
    intro x hx
    rcases List.mem_cons.mp hx with rfl | hx
    · rw [h1, h2]; exact ⟨hc, hv, h3⟩
    · exact hall x hx

end Dhcp.V6
