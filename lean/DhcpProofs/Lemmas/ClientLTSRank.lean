import DhcpProofs.Lemmas.ClientLTS
/-
  Termination after Close (C11): per-caller variants `mu i` that share the receive
  loop's potential `rxPot`, and one rank for the whole client, in which the caller
  parts are summed over the (finite) set of callers that were ever started and
  `rxPot` is counted once.  A step of the client changes the caller part of at most
  ONE caller (`affected`): its own for a caller's step, that of the owner of the
  registration delivered into for `rxDeliver`.
-/
namespace Dhcp.Client.LTS

/-- Distance of the receive loop to `exited` along idle → got → passed → sending → unlocking →
idle: each step goes down, and the jump back up from `idle` (1) to `got` (10) is paid for by the
datagram `rxRead` takes off the queue (12 in `rxPot`). `sending` stands 6 above `unlocking` so that
`rxDeliver` can pay for the packet it puts into a caller's buffer (2 in `mu`). -/
def rxRank : RPc → Nat
  | .exited => 0 | .idle => 1 | .unlocking => 2 | .sending _ _ => 8 | .passed _ => 9 | .got _ => 10

def rxPot (s : State) : Nat := rxRank s.rx + 12 * s.inq.length + (if s.closeReturned then 0 else 1)

/-- After a deadline the caller may go round again (`nextTry` to `start`, 7): 14 leaves room for the
way back down through `leaving` (+3) from `waiting` (18); every other reason only leads out. -/
def whyRank : Why → Nat
  | .deadline => 14
  | _ => 1

/-- Distance of a caller to `returned` in a closed client: start → regLocked → registered →
leaving (`transmitFail`) → leaving2 → cancelLocked → after → returned, with `waiting` / `matching`
above `leaving .deadline` (17): `giveUp*`, `accept` and `reject` lead down from there, `take` goes up
by one and pays with the packet it takes out of the buffer (2 in `mu`). -/
def crank : CPc → Nat
  | .idle => 0
  | .returned _ => 0
  | .after w => whyRank w
  | .cancelLocked _ w => whyRank w + 1
  | .leaving2 _ w => whyRank w + 2
  | .leaving _ w => whyRank w + 3
  | .registered _ => 5
  | .regLocked => 6
  | .start => 7
  | .waiting _ => 18
  | .matching _ _ => 19

def bufOf (s : State) (pc : CPc) : Nat :=
  match pc.reg with
  | some r => (getR s r).buf.length
  | none => 0

def mu (i : Nat) (s : State) : Nat := crank (getC s i).pc + 2 * bufOf s (getC s i).pc + rxPot s

section
variable (r : Nat) (p : Pkt) (op : Option Pkt) (w : Why) (res : Ret)
@[simp, grind =] theorem rxRank_exited : rxRank .exited = 0 := rfl
@[simp, grind =] theorem rxRank_idle : rxRank .idle = 1 := rfl
@[simp, grind =] theorem rxRank_unlocking : rxRank .unlocking = 2 := rfl
@[simp, grind =] theorem rxRank_sending : rxRank (.sending p r) = 8 := rfl
@[simp, grind =] theorem rxRank_passed : rxRank (.passed p) = 9 := rfl
@[simp, grind =] theorem rxRank_got : rxRank (.got p) = 10 := rfl
@[simp, grind =] theorem crank_idle : crank .idle = 0 := rfl
@[simp, grind =] theorem crank_returned : crank (.returned res) = 0 := rfl
@[simp, grind =] theorem crank_after : crank (.after w) = whyRank w := rfl
@[simp, grind =] theorem crank_cancelLocked : crank (.cancelLocked r w) = whyRank w + 1 := rfl
@[simp, grind =] theorem crank_leaving2 : crank (.leaving2 r w) = whyRank w + 2 := rfl
@[simp, grind =] theorem crank_leaving : crank (.leaving r w) = whyRank w + 3 := rfl
@[simp, grind =] theorem crank_registered : crank (.registered r) = 5 := rfl
@[simp, grind =] theorem crank_regLocked : crank .regLocked = 6 := rfl
@[simp, grind =] theorem crank_start : crank .start = 7 := rfl
@[simp, grind =] theorem crank_waiting : crank (.waiting r) = 18 := rfl
@[simp, grind =] theorem crank_matching : crank (.matching r op) = 19 := rfl
@[simp, grind =] theorem whyRank_deadline : whyRank .deadline = 14 := rfl
@[simp, grind =] theorem whyRank_ctx : whyRank .ctx = 1 := rfl
@[simp, grind =] theorem whyRank_closed : whyRank .closed = 1 := rfl
@[simp, grind =] theorem whyRank_txfail : whyRank .txfail = 1 := rfl
@[simp, grind =] theorem whyRank_txerr : whyRank .txerr = 1 := rfl
@[simp, grind =] theorem whyRank_resp : whyRank (.resp op) = 1 := rfl
end
theorem whyRank_le (w : Why) : 1 ≤ whyRank w ∧ whyRank w ≤ 14 := by cases w <;> simp [whyRank]

def movesFor (i : Nat) : Label → Bool
  | .rxRead | .rxExit | .rxDrop | .rxPass | .rxLock | .rxDeliver | .rxDoneDrop | .rxUnlock | .closeReturn => true
  | .lock j | .register j | .refuse j | .transmit j | .transmitFail j | .transmitErr j | .take j | .accept j | .reject j
  | .giveUp j | .giveUpCtx j | .giveUpClosed j | .cancel1 j | .cancel2 j | .nextTry j | .ret j => j == i
  | _ => false

def cpart (i : Nat) (s : State) : Nat := crank (getC s i).pc + 2 * bufOf s (getC s i).pc

theorem mu_eq (i : Nat) (s : State) : mu i s = cpart i s + rxPot s := rfl

def affected (s : State) : Label → Nat
  | .lock j | .register j | .refuse j | .transmit j | .transmitFail j | .transmitErr j | .take j | .accept j | .reject j
  | .giveUp j | .giveUpCtx j | .giveUpClosed j | .cancel1 j | .cancel2 j | .nextTry j | .ret j => j
  | .rxDeliver => match s.rx with | .sending _ r => (getR s r).owner | _ => 0
  | _ => 0

theorem movesFor_affected (s : State) (l : Label) (hl : isEnv l = false) : movesFor (affected s l) l = true := by
  cases l <;> simp_all [isEnv, movesFor, affected]

theorem rxPot_mono (cfg : Cfg) (s s' : State) (l : Label) (hw : WF cfg s)
    (hl : isEnv l = false) (h : step cfg s l = some s') : rxPot s' ≤ rxPot s := by
  cases step_sound h
  case bad h _ => exact (h.elim hw).elim
  -- a caller's step leaves `rx`, `inq`, `closeReturned` alone; `hl` excludes the environment
  all_goals first | exact Nat.le_refl _ | cases hl | skip
  -- the loop's own steps and `closeReturn`: `rxRank` goes down, `rxRead` pays 12 for the datagram it takes
  all_goals simp_all [rxPot] <;> omega

/-- What `cpart i` reads: caller `i` and the buffer length of the registration it names. -/
theorem cpart_congr {i : Nat} {s s' : State} (hc : getC s' i = getC s i)
    (hb : ∀ r, (getC s i).pc.reg = some r → (getR s' r).buf.length = (getR s r).buf.length) :
    cpart i s' = cpart i s := by
  unfold cpart bufOf
  rw [hc]
  cases hq : (getC s i).pc.reg with
  | none => rfl
  | some q => simp only [hb q hq]

theorem getR_buf {s : State} (r q : Nat) (g : Reg) (h : q = r → g.buf.length = (getR s r).buf.length) :
    (getR (setR s r g) q).buf.length = (getR s q).buf.length := by
  rw [getR_setR]; split
  · next e => rw [h e, e]
  · rfl

theorem cpart_frame (cfg : Cfg) (s s' : State) (l : Label) (i : Nat) (hw : WF cfg s)
    (hl : isEnv l = false) (h : step cfg s l = some s') (hi : i ≠ affected s l) : cpart i s' = cpart i s := by
  cases step_sound h
  case bad h _ => exact (h.elim hw).elim
  -- steps that write neither callers nor registrations; `hl` excludes the environment
  all_goals first | rfl | cases hl | skip
  -- a caller's own step that leaves every buffer alone: `i` is another caller
  case lockStart | lockCancel | refuse | transmit | transmitFail | transmitErr | accept | giveUp | giveUpCtx
      | giveUpClosed | nextTry | ret | cancel2Skip => exact cpart_congr (getC_ne _ _ hi) fun _ _ => rfl
  case reject | cancel1 | cancel2 => exact cpart_congr (getC_ne _ _ hi) fun q _ => getR_buf _ q _ fun _ => rfl
  case rxDoneDrop => exact cpart_congr rfl fun q _ => getR_buf _ q _ fun _ => rfl
  -- `buf` is written: a registration is named by its owner only, and that is the affected caller;
  -- the one `register` creates has an index that nothing names yet
  case take j r p rest hpc hb =>
    refine cpart_congr (getC_ne _ _ hi) fun q hn => getR_buf _ q _ fun e => absurd ?_ hi
    exact (hw.pcreg i q hn).2.1.symm.trans (e ▸ (hw.pcreg j r (by simp [hpc])).2.1)
  case rxDeliver p r hrx hm hroom hcl =>
    refine cpart_congr rfl fun q hn => getR_buf _ q _ fun e => absurd ?_ hi
    simp [affected, hrx, ← e, (hw.pcreg i q hn).2.1]
  case register j hpc hm hp =>
    refine cpart_congr (getC_ne _ _ hi) fun q hn => getR_buf _ q _ fun e => ?_
    exact absurd (e ▸ (hw.pcreg i q hn).1) (Nat.lt_irrefl _)

/-- What `mu i` is after caller `i` has moved to `c`, the loop's potential unchanged. -/
theorem mu_own {i : Nat} {s s' : State} {c : Caller} (hC : getC s' i = c) (hP : rxPot s' = rxPot s)
    (hlt : crank c.pc + 2 * bufOf s' c.pc < crank (getC s i).pc + 2 * bufOf s (getC s i).pc) : mu i s' < mu i s := by
  unfold mu
  rw [hC, hP]
  exact Nat.add_lt_add_right hlt _

/-- `mu i` after a step of the loop that leaves `i`'s part alone. -/
theorem mu_loop {i : Nat} {s s' : State} (hC : cpart i s' = cpart i s) (hlt : rxPot s' < rxPot s) :
    mu i s' < mu i s := by
  rw [mu_eq, mu_eq, hC]
  exact Nat.add_lt_add_left hlt _

/-- A step of caller `i`, of the receive loop or of Close's wait lowers `i`'s variant. -/
theorem mu_strict (cfg : Cfg) (s s' : State) (l : Label) (i : Nat) (hc : s.closed = true) (hw : WF cfg s)
    (hl : movesFor i l = true) (h : step cfg s l = some s') : mu i s' < mu i s := by
  cases step_sound h
  case bad h _ => exact (h.elim hw).elim
  all_goals first | cases hl | skip
  -- the loop's steps lower `rxPot` and leave `i`'s part alone, but for `rxDeliver` into `i`'s channel,
  -- which pays 6 of it for 2 more in `i`'s buffer part: the one case that asks whose channel it is
  case rxDeliver =>
    have hpcreg := hw.pcreg
    have hrxsend := hw.rxsend
    have hpowner := hw.powner
    grind [mu, rxPot, bufOf, movesFor, FMap.val_set, whyRank_le]
  case rxDoneDrop => exact mu_loop (cpart_congr rfl fun q _ => getR_buf _ q _ fun _ => rfl) (by simp [rxPot, *])
  case closeReturn | rxExit | rxDrop | rxPass | rxLockSome | rxLockNone | rxUnlock =>
    exact mu_loop rfl (by simp [rxPot, *])
  case rxRead =>
    refine mu_loop rfl ?_
    simp [rxPot, *]
    omega
  -- caller `i`'s own steps lower `crank`, and `take` pays for its step up with the packet it takes
  -- out of the buffer; the client is closed: no `transmit`
  all_goals obtain rfl : _ = i := by simpa [movesFor] using hl
  case transmit _ _ hcl | transmitErr _ _ hcl =>
    rw [hc] at hcl
    cases hcl
  all_goals refine mu_own ((getC_setC ..).trans (if_pos rfl)) rfl ?_
  all_goals simp [bufOf, getR, FMap.val_set, *]
  case ret => exact (whyRank_le _).1
  all_goals omega

theorem mu_mono (cfg : Cfg) (s s' : State) (l : Label) (i : Nat) (hc : s.closed = true) (hw : WF cfg s)
    (hl : isEnv l = false) (h : step cfg s l = some s') : mu i s' ≤ mu i s := by
  by_cases hi : i = affected s l
  · exact Nat.le_of_lt (mu_strict cfg s s' l i hc hw (hi ▸ movesFor_affected s l hl) h)
  · rw [mu_eq, mu_eq, cpart_frame cfg s s' l i hw hl h hi]
    exact Nat.add_le_add_left (rxPot_mono cfg s s' l hw hl h) _

def cbound (s : State) : Nat := (s.callers.l.map Prod.fst).foldr max 0 + 1

theorem getL_none_of_lt {β : Type} : ∀ (l : List (Nat × β)) (k : Nat),
    (l.map Prod.fst).foldr max 0 < k → FMap.getL k l = none
  | [], _, _ => rfl
  | (k', v) :: t, k, h => by
    simp only [List.map_cons, List.foldr_cons] at h
    have h1 : k' < k := by omega
    have h2 : (t.map Prod.fst).foldr max 0 < k := by omega
    simp only [FMap.getL]
    rw [if_neg (by omega)]
    exact getL_none_of_lt t k h2

theorem cpart_zero_of_bound (s : State) (i : Nat) (h : cbound s ≤ i) : cpart i s = 0 := by
  have hg : s.callers.get i = none := getL_none_of_lt s.callers.l i (by unfold cbound at h; omega)
  have hc : getC s i = default := by simp [getC, FMap.val, hg]
  simp [cpart, hc, bufOf]

def sumTo (f : Nat → Nat) : Nat → Nat
  | 0 => 0
  | n + 1 => sumTo f n + f n

theorem sumTo_ext_zero (f : Nat → Nat) (n : Nat) : ∀ m, n ≤ m → (∀ i, n ≤ i → f i = 0) → sumTo f m = sumTo f n
  | 0, h, _ => by have : n = 0 := by omega
                  subst this; rfl
  | m + 1, h, hz => by
    by_cases hn : n = m + 1
    · subst hn; rfl
    · have : n ≤ m := by omega
      simp only [sumTo]
      rw [sumTo_ext_zero f n m this hz, hz m this]
      rfl

theorem sumTo_congr (f g : Nat → Nat) : ∀ n, (∀ i, i < n → f i = g i) → sumTo f n = sumTo g n
  | 0, _ => rfl
  | n + 1, h => by
    simp only [sumTo]
    rw [sumTo_congr f g n (fun i hi => h i (by omega)), h n (by omega)]

theorem sumTo_except (f g : Nat → Nat) (a : Nat) : ∀ n, a < n → (∀ i, i ≠ a → f i = g i) →
    sumTo f n + g a = sumTo g n + f a
  | 0, h, _ => by omega
  | n + 1, h, he => by
    simp only [sumTo]
    by_cases hn : a = n
    · subst hn
      rw [sumTo_congr f g a (fun i hi => he i (by omega))]
      omega
    · have := sumTo_except f g a n (by omega) he
      rw [he n (by omega)]
      omega

def rank (s : State) : Nat := rxPot s + sumTo (fun i => cpart i s) (cbound s)

theorem rank_eq (s : State) (m : Nat) (h : cbound s ≤ m) : rank s = rxPot s + sumTo (fun i => cpart i s) m := by
  unfold rank
  rw [sumTo_ext_zero (fun i => cpart i s) (cbound s) m h (fun i hi => cpart_zero_of_bound s i hi)]

theorem rank_decreases (cfg : Cfg) (s s' : State) (l : Label) (hc : s.closed = true) (hw : WF cfg s)
    (hl : isEnv l = false) (h : step cfg s l = some s') : rank s' < rank s := by
  let a := affected s l
  let m := max (max (cbound s) (cbound s')) (a + 1)
  have hs : rank s = rxPot s + sumTo (fun i => cpart i s) m := rank_eq s m (by omega)
  have hs' : rank s' = rxPot s' + sumTo (fun i => cpart i s') m := rank_eq s' m (by omega)
  have hex := sumTo_except (fun i => cpart i s') (fun i => cpart i s) a m (by omega)
    (fun i hi => cpart_frame cfg s s' l i hw hl h hi)
  have hst := mu_strict cfg s s' l a hc hw (movesFor_affected s l hl) h
  rw [mu_eq, mu_eq] at hst
  omega

end Dhcp.Client.LTS
