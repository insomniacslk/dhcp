import DhcpProofs.Lemmas.Basic
import DhcpProofs.Lemmas.RawArith
/-
  `udp4pkt` in closed form: the guarded, write-by-write model of the encoder
  never panics and produces the explicit byte layout `frameOf`; and `frameOf`
  read back field by field through the specification's accessors.
-/
namespace Dhcp.Raw
open Dhcp.Spec.Inet

theorem to4_length {ip : GoIP} {a : Bytes} (h : to4 ip = some a) : a.length = 4 := by
  unfold to4 at h
  split at h
  · cases h
  · split at h
    · cases h
      assumption
    · split at h
      · cases h
        simp [*]
      · cases h

/-- The four address bytes `encode` leaves in the zeroed header for an address
argument: its `To4` form, or `0.0.0.0` when that is nil. -/
def hdrAddr (ip : GoIP) : Bytes := (to4 ip).getD [0, 0, 0, 0]

theorem hdrAddr_length (ip : GoIP) : (hdrAddr ip).length = 4 := by
  unfold hdrAddr
  cases h : to4 ip with
  | none => rfl
  | some a => exact to4_length h

theorem hdrAddr_cases (ip : GoIP) : ∃ a b c d, hdrAddr ip = [a, b, c, d] := len4 (hdrAddr_length ip)

theorem hdrAddr_some {a : Bytes} (h : a.length = 4) : hdrAddr (some a) = a := by
  simp [hdrAddr, to4, h]

/-- `copy(b[lo:lo+4], ip.To4())` into four zero bytes: a nil `To4()` copies nothing and leaves the zeros -/
theorem copyAt_to4 (b : Bytes) (lo : Nat) (ip : GoIP) (hb : lo + 4 ≤ b.length)
    (hz : (b.drop lo).take 4 = [0, 0, 0, 0]) :
    copyAt b lo (lo + 4) (ipBytes (to4 ip)) = .ok (b.take lo ++ hdrAddr ip ++ b.drop (lo + 4)) := by
  rw [copyAt, if_pos ⟨by omega, hb⟩, hdrAddr]
  cases h : to4 ip with
  | none =>
    rw [Option.getD_none, ← hz, ← List.drop_drop, List.append_assoc, List.take_append_drop]
    simp [ipBytes]
  | some a => simp [ipBytes, to4_length h, List.take_of_length_le (Nat.le_of_eq (to4_length h))]

theorem wordSum_hdrAddr (ip : GoIP) : wordSum (hdrAddr ip) = wordSum (ipBytes (to4 ip)) := by
  unfold hdrAddr
  cases to4 ip <;> simp [ipBytes, wordSum, words]

/-- The IPv4 header `udp4pkt` lays out, with `ck` in the checksum field. -/
def ipHdr (tl ck : Nat) (s d : Bytes) : Bytes :=
  [0x45, 0] ++ be16 tl ++ [0, 0, 0, 0, 64, 17] ++ be16 ck ++ s ++ d

def udpHdr (sp dp ul ck : Nat) : Bytes := be16 sp ++ be16 dp ++ be16 ul ++ be16 ck

def ipAcc (p : Bytes) (dst src : Addr) : Nat :=
  checksum (ipHdr (u16 (28 + p.length)) 0 (hdrAddr src.ip) (hdrAddr dst.ip)) 0

/-- the running sum over pseudo header, payload, UDP length and the UDP header with a zero checksum
field, in the order `udp4pkt` feeds them -/
def udpAcc (p : Bytes) (dst src : Addr) : Nat :=
  checksum (udpHdr (u16 src.port) (u16 dst.port) (u16 (8 + p.length)) 0)
    (checksum (be16 (u16 (8 + p.length)))
      (checksum p (pseudoHeaderchecksum 17 (to4 src.ip) (to4 dst.ip))))

/-- The frame `udp4pkt` builds: both headers, each with the complement of its running sum. -/
def frameOf (p : Bytes) (dst src : Addr) : Bytes :=
  ipHdr (u16 (28 + p.length)) (compl16 (ipAcc p dst src)) (hdrAddr src.ip) (hdrAddr dst.ip) ++
    udpHdr (u16 src.port) (u16 dst.port) (u16 (8 + p.length)) (compl16 (udpAcc p dst src)) ++ p

theorem u16_lt (n : Nat) : u16 n < 65536 := by simp only [u16]; omega

theorem udp4pkt_eq (p : Bytes) (dst src : Addr) : udp4pkt p dst src = .ok (frameOf p dst src) := by
  have e1 : beNat [UInt8.ofNat (u16 (8 + p.length) / 256), UInt8.ofNat (u16 (8 + p.length))] = _ :=
    beNat_be16 (u16_lt _)
  have z : u16 (u16 0 ||| u16 0 >>> 3) = 0 := by decide
  obtain ⟨s0, s1, s2, s3, hs⟩ := hdrAddr_cases src.ip
  obtain ⟨d0, d1, d2, d3, hd⟩ := hdrAddr_cases dst.ip
  simp [udp4pkt, frameOf, ipAcc, udpAcc, ipHdr, udpHdr, ipv4Encode, udpEncode, put8, put16, copyAt_to4,
    zeros, be16, bind, Res.bind, pure, hs, hd, versIHL, tosOff, totalLenOff, idOff, flagsFOOff, ttlOff,
    protocolOff, checksumOff, srcAddrOff, dstAddrOff, ipv4AddressSize, List.replicate, headerLength, idx,
    slicePrefix, get16, ipv4MinimumSize, udpMinimumSize, udpSrcPortOff, udpDstPortOff, udpLengthOff,
    udpChecksumOff, ttlValue, udpProtocolNumber, u8, e1, z]

theorem writeAll_eq (src : Addr) (ds : List (Bytes × Addr)) :
    writeAll (some src) ds = .ok (ds.map fun d => frameOf d.1 d.2 src) := by
  induction ds with
  | nil => rfl
  | cons d rest ih => simp [writeAll, writeTo, udp4pkt_eq, ih, bind, Res.bind, pure]

theorem hi_lo_word {v : Nat} (h : v < 65536) : v / 256 % 256 * 256 + v % 256 = v := by omega

theorem compl16_lt (x : Nat) : compl16 x < 65536 := by simp only [compl16, u16]; omega

theorem frameOf_length (p : Bytes) (dst src : Addr) : (frameOf p dst src).length = 28 + p.length := by
  simp [frameOf, ipHdr, udpHdr, hdrAddr_length]; omega

theorem frameOf_drop (p : Bytes) (dst src : Addr) : (frameOf p dst src).drop 28 = p := by
  rw [frameOf, List.drop_left' (by simp [ipHdr, udpHdr, hdrAddr_length])]

theorem frameOf_fields (p : Bytes) (dst src : Addr) (hp : 28 + p.length ≤ 65535) :
    let f := frameOf p dst src
    version f = 4 ∧ ihl f = 5 ∧ hdrLen f = 20 ∧ totalLen f = 28 + p.length ∧ wordAt f 4 = 0 ∧ flagsFrag f = 0 ∧
    byteAt f 1 = 0 ∧ ttl f = 64 ∧ proto f = 17 ∧ hdrChecksum f = compl16 (ipAcc p dst src) ∧
    srcAddr f = hdrAddr src.ip ∧ dstAddr f = hdrAddr dst.ip := by
  obtain ⟨s0, s1, s2, s3, hs⟩ := hdrAddr_cases src.ip
  obtain ⟨d0, d1, d2, d3, hd⟩ := hdrAddr_cases dst.ip
  have t : u16 (28 + p.length) = 28 + p.length := by simp only [u16]; omega
  simp [frameOf, ipHdr, version, ihl, hdrLen, totalLen, flagsFrag, ttl, proto, hdrChecksum, srcAddr, dstAddr, wordAt,
    byteAt, be16, hs, hd, t]
  exact ⟨hi_lo_word (by omega), hi_lo_word (compl16_lt _)⟩

theorem frameOf_wellFormed (p : Bytes) (dst src : Addr) (hp : 28 + p.length ≤ 65535) :
    WellFormed (frameOf p dst src) := by
  obtain ⟨v, _, _, _, _, _, _, _, pr, _⟩ := frameOf_fields p dst src hp
  have := frameOf_length p dst src
  exact ⟨by omega, v, by omega, by omega, by omega, pr⟩

theorem frameOf_ipPayload (p : Bytes) (dst src : Addr) (hp : 28 + p.length ≤ 65535) :
    ipPayload (frameOf p dst src) =
      udpHdr (u16 src.port) (u16 dst.port) (8 + p.length) (compl16 (udpAcc p dst src)) ++ p := by
  obtain ⟨_, _, h20, htl, _⟩ := frameOf_fields p dst src hp
  have t : u16 (8 + p.length) = 8 + p.length := by simp only [u16]; omega
  rw [ipPayload, htl, h20, List.take_of_length_le (by rw [frameOf_length]; omega), frameOf, List.append_assoc,
    List.drop_left' (by simp [ipHdr, hdrAddr_length]), t]

theorem frameOf_udp (p : Bytes) (dst src : Addr) (hp : 28 + p.length ≤ 65535) :
    let f := frameOf p dst src
    srcPort f = u16 src.port ∧ dstPort f = u16 dst.port ∧ udpLen f = 8 + p.length ∧
    udpChecksum f = compl16 (udpAcc p dst src) ∧ udpData f = p := by
  simp [srcPort, dstPort, udpLen, udpChecksum, udpData, frameOf_ipPayload p dst src hp, udpHdr, wordAt, byteAt, be16]
  exact ⟨hi_lo_word (u16_lt _), hi_lo_word (u16_lt _), hi_lo_word (by omega), hi_lo_word (compl16_lt _)⟩

end Dhcp.Raw
