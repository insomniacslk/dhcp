import DhcpProofs.Lemmas.V6LeafInv
import DhcpProofs.Lemmas.V6BuildMsg
import Dhcp.V6.Access
/-
  What decoding guarantees about the SHAPE of a DHCPv6 message, at every
  nesting depth (`DecMsg`), as far as the read-only observers of C03 need it:
  * an `OptionGeneric` only ever carries a code outside the `ParseOption`
    table, so an option found by a known code has that code's Go type and the
    unchecked assertions of the accessors (`opt.(*optClientID)`,
    `o.(*OptIANA)`, `o.(*OptIAAddress)`, `opt17.(*OptVendorOpts)` …) succeed;
  * relay headers carry 16-byte link and peer addresses and one of the two
    relay types, non-relay messages any other type;
  * an embedded DHCPv4 message (option 87) was accepted by the DHCPv4 decoder.
  Proved from the declarative grammar `PMsg` (`dec6 b = ok m ↔ PMsg b m`, C05)
  by recursion on the derivation; no side condition (unlike `WFMsg`, which
  needs `FitsLen` for embedded DHCPv4 messages).

  Then the typed accessors of the option sets (Dhcp/V6/Access.lean): every
  option set reachable from a decoded message is again a decoded option list,
  and on a decoded option list no accessor panics.
-/
namespace Dhcp.V6
open Dhcp.Spec

mutual
def DecOpt : Opt6 → Prop
  | .generic c _ => c ∉ knownCodes
  | .dhcpv4Msg p => ∃ v, V4.dec4 v = .ok p
  | .relayMsg m => DecMsg m
  | .iana _ _ _ os => DecOpts os
  | .iata _ os => DecOpts os
  | .iaaddr _ _ _ os => DecOpts os
  | .iapd _ _ _ os => DecOpts os
  | .iaprefix _ _ _ os => DecOpts os
  | .fourRD os => DecOpts os
  | _ => True
def DecOpts : List Opt6 → Prop
  | [] => True
  | o :: os => DecOpt o ∧ DecOpts os
def DecMsg : Msg6 → Prop
  | .msg t _ os => isRelayType t = false ∧ DecOpts os
  | .relay t _ link peer os => isRelayType t = true ∧ IP16 link ∧ IP16 peer ∧ DecOpts os
end

theorem DecOpts.mem {os : List Opt6} (h : DecOpts os) {o : Opt6} (ho : o ∈ os) : DecOpt o := by
  induction os with
  | nil => cases ho
  | cons x xs ih =>
    rcases List.mem_cons.mp ho with rfl | hm
    · exact h.1
    · exact ih h.2 hm

theorem decOpt_of_leaf {c : Nat} {v : Bytes} {o : Opt6} (hcc : c ∉ containerCodes)
    (h : decSimple c v = .ok o) : DecOpt o := by
  cases decSimple_sound c v o hcc h with
  | generic hn => exact hn
  | dhcpv4Msg hp => exact ⟨v, V4.dec4_complete _ _ hp⟩
  | _ => trivial

mutual
theorem decOpt_of_POpt : {c : Nat} → {v : Bytes} → {o : Opt6} → POpt c v o → c < 65536 → DecOpt o
  | _, _, _, .leaf hcc hd, _ => decOpt_of_leaf hcc hd
  | _, _, _, .clientID _, _ => trivial
  | _, _, _, .serverID _, _ => trivial
  | _, _, _, .iana _ _ _ hs, _ => decOpts_of_POpts hs
  | _, _, _, .iata _ hs, _ => decOpts_of_POpts hs
  | _, _, _, .iaaddr _ _ _ hs, _ => decOpts_of_POpts hs
  | _, _, _, .relayMsg hm, _ => decMsg_of_PMsg hm
  | _, _, _, .iapd _ _ _ hs, _ => decOpts_of_POpts hs
  | _, _, _, .iaprefix _ _ _ _ hs, _ => decOpts_of_POpts hs
  | _, _, _, .fourRD hs, _ => decOpts_of_POpts hs
theorem decOpts_of_POpts : {d : Bytes} → {os : List Opt6} → POpts d os → DecOpts os
  | _, _, .nil => trivial
  | _, _, .cons hc _ hp hs => ⟨decOpt_of_POpt hp hc, decOpts_of_POpts hs⟩
theorem decMsg_of_PMsg : {b : Bytes} → {m : Msg6} → PMsg b m → DecMsg m
  | _, _, .msg ht _ hs => ⟨ht, decOpts_of_POpts hs⟩
  | _, _, .relay (link := link) (peer := peer) ht h1 h2 hs =>
    ⟨ht, ⟨link, rfl, h1⟩, ⟨peer, rfl, h2⟩, decOpts_of_POpts hs⟩
end

theorem decMsg_of_dec6 {b : Bytes} {m : Msg6} (h : dec6 b = .ok m) : DecMsg m :=
  decMsg_of_PMsg ((dec6_iff b m).mp h)

theorem DecMsg.opts {m : Msg6} (h : DecMsg m) : DecOpts m.opts := by
  cases m with
  | msg t x os => exact h.2
  | relay t hc l p os => exact h.2.2.2

theorem DecOpts.relayMessageOf {os : List Opt6} (h : DecOpts os) {m : Msg6}
    (hm : relayMessageOf os = some m) : DecMsg m :=
  h.mem (relayMessageOf_mem hm)

/-! ### the Go type of a decoded option is the one `ParseOption` gives its code

One lemma per type the library asserts unchecked (`opt.(*T)`): in each, the
constructor itself, `OptionGeneric` (excluded: the code is in the table) and
every other constructor (it has another code). -/

theorem DecOpt.clientID_of_code {o : Opt6} (h : DecOpt o) (hc : o.code = ocClientID) : ∃ d, o = .clientID d := by
  cases o with
  | clientID d => exact ⟨d, rfl⟩
  | generic => cases hc; exact absurd (by decide) h
  | _ => cases hc

theorem DecOpt.serverID_of_code {o : Opt6} (h : DecOpt o) (hc : o.code = ocServerID) : ∃ d, o = .serverID d := by
  cases o with
  | serverID d => exact ⟨d, rfl⟩
  | generic => cases hc; exact absurd (by decide) h
  | _ => cases hc

theorem DecOpt.iana_of_code {o : Opt6} (h : DecOpt o) (hc : o.code = ocIANA) :
    ∃ i t1 t2 sub, o = .iana i t1 t2 sub ∧ DecOpts sub := by
  cases o with
  | iana i t1 t2 sub => exact ⟨i, t1, t2, sub, rfl, h⟩
  | generic => cases hc; exact absurd (by decide) h
  | _ => cases hc

theorem DecOpt.iata_of_code {o : Opt6} (h : DecOpt o) (hc : o.code = ocIATA) : ∃ i sub, o = .iata i sub := by
  cases o with
  | iata i sub => exact ⟨i, sub, rfl⟩
  | generic => cases hc; exact absurd (by decide) h
  | _ => cases hc

theorem DecOpt.iaaddr_of_code {o : Opt6} (h : DecOpt o) (hc : o.code = ocIAAddr) :
    ∃ ip p v sub, o = .iaaddr ip p v sub := by
  cases o with
  | iaaddr ip p v sub => exact ⟨ip, p, v, sub, rfl⟩
  | generic => cases hc; exact absurd (by decide) h
  | _ => cases hc

theorem DecOpt.iapd_of_code {o : Opt6} (h : DecOpt o) (hc : o.code = ocIAPD) :
    ∃ i t1 t2 sub, o = .iapd i t1 t2 sub := by
  cases o with
  | iapd i t1 t2 sub => exact ⟨i, t1, t2, sub, rfl⟩
  | generic => cases hc; exact absurd (by decide) h
  | _ => cases hc

theorem DecOpt.vendorClass_of_code {o : Opt6} (h : DecOpt o) (hc : o.code = ocVendorClass) :
    ∃ en data, o = .vendorClass en data := by
  cases o with
  | vendorClass en data => exact ⟨en, data, rfl⟩
  | generic => cases hc; exact absurd (by decide) h
  | _ => cases hc

theorem DecOpt.vendorOpts_of_code {o : Opt6} (h : DecOpt o) (hc : o.code = ocVendorOpts) :
    ∃ en subs, o = .vendorOpts en subs := by
  cases o with
  | vendorOpts en subs => exact ⟨en, subs, rfl⟩
  | generic => cases hc; exact absurd (by decide) h
  | _ => cases hc

theorem DecOpt.archType_of_code {o : Opt6} (h : DecOpt o) (hc : o.code = ocClientArchType) : ∃ as, o = .archType as := by
  cases o with
  | archType as => exact ⟨as, rfl⟩
  | generic => cases hc; exact absurd (by decide) h
  | _ => cases hc

theorem DecOpts.codeTyped {os : List Opt6} (h : DecOpts os) {c : Nat} {p : Opt6 → Bool}
    (hp : ∀ o, DecOpt o → o.code = c → p o = true) : CodeTyped c p os :=
  fun o ho hc => hp o (h.mem ho) hc

theorem DecOpts.ianaTyped {os : List Opt6} (h : DecOpts os) : IANATyped os :=
  h.codeTyped fun o ho hc => by obtain ⟨_, _, _, _, rfl, _⟩ := ho.iana_of_code hc; rfl

theorem DecOpts.iataTyped {os : List Opt6} (h : DecOpts os) : CodeTyped ocIATA Opt6.isIATA os :=
  h.codeTyped fun o ho hc => by obtain ⟨_, _, rfl⟩ := ho.iata_of_code hc; rfl

theorem DecOpts.iapdTyped {os : List Opt6} (h : DecOpts os) : CodeTyped ocIAPD Opt6.isIAPD os :=
  h.codeTyped fun o ho hc => by obtain ⟨_, _, _, _, rfl⟩ := ho.iapd_of_code hc; rfl

/-- the two type assertions `NewRequestFromAdvertise` makes unchecked on the advertise's options
(`*OptIANA` under code 3, a client id under code 1); for `C16_request_decoded` -/
def Opt6.Typed (o : Opt6) : Prop :=
  (o.code = ocIANA → o.isIANA = true) ∧ (o.code = ocClientID → ∃ d, o = .clientID d)

theorem dec6_typed {b : Bytes} {m : Msg6} (h : dec6 b = .ok m) : ∀ o ∈ m.opts, o.Typed := fun o ho =>
  ⟨(decMsg_of_dec6 h).opts.ianaTyped o ho, ((decMsg_of_dec6 h).opts.mem ho).clientID_of_code⟩

theorem DecOpts.clientIDOf {os : List Opt6} (h : DecOpts os) : clientIDOf os ≠ .panic := by
  unfold V6.clientIDOf
  cases hg : getOne ocClientID os with
  | none => nofun
  | some o =>
    obtain ⟨d, rfl⟩ := (h.mem (getOne_mem hg)).clientID_of_code (getOne_code hg)
    nofun

theorem DecOpts.serverIDOf {os : List Opt6} (h : DecOpts os) : serverIDOf os ≠ .panic := by
  unfold V6.serverIDOf
  cases hg : getOne ocServerID os with
  | none => nofun
  | some o =>
    obtain ⟨d, rfl⟩ := (h.mem (getOne_mem hg)).serverID_of_code (getOne_code hg)
    nofun

theorem DecOpts.archTypesOf {os : List Opt6} (h : DecOpts os) : archTypesOf os ≠ .panic := by
  unfold V6.archTypesOf
  cases hg : getOne ocClientArchType os with
  | none => nofun
  | some o =>
    obtain ⟨as, rfl⟩ := (h.mem (getOne_mem hg)).archType_of_code (getOne_code hg)
    nofun

/-- `Get(code)` followed by an unchecked assertion on every element (`IANA()`, `IATA()`, `IAPD()`,
`Addresses()`) when every option of that code has the type asserted -/
theorem assertAll_ne_panic {c : Nat} {p : Opt6 → Bool} {os : List Opt6} (h : CodeTyped c p os) :
    (if (get c os).all p then Res.ok (get c os) else .panic) ≠ .panic := by
  simp [(all_get_iff c p os).mpr h]

theorem DecOpts.ianasOf {os : List Opt6} (h : DecOpts os) : ianasOf os ≠ .panic :=
  assertAll_ne_panic h.ianaTyped

theorem DecOpts.iatasOf {os : List Opt6} (h : DecOpts os) : iatasOf os ≠ .panic :=
  assertAll_ne_panic h.iataTyped

theorem DecOpts.iapdsOf {os : List Opt6} (h : DecOpts os) : iapdsOf os ≠ .panic :=
  assertAll_ne_panic h.iapdTyped

theorem DecOpts.addressesOf {os : List Opt6} (h : DecOpts os) : addressesOf os ≠ .panic :=
  assertAll_ne_panic <| h.codeTyped fun o ho hc => by obtain ⟨_, _, _, _, rfl⟩ := ho.iaaddr_of_code hc; rfl

theorem DecOpts.runAcc (a : Acc) {os : List Opt6} (h : DecOpts os) : runAcc a os ≠ .panic := by
  cases a with
  | archTypes => exact Res.map_ne_panic h.archTypesOf
  | clientID => exact Res.map_ne_panic h.clientIDOf
  | serverID => exact Res.map_ne_panic h.serverIDOf
  | iana => exact Res.map_ne_panic h.ianasOf
  | oneIANA => exact Res.map_ne_panic (Res.map_ne_panic h.ianasOf)
  | iata => exact Res.map_ne_panic h.iatasOf
  | oneIATA => exact Res.map_ne_panic (Res.map_ne_panic h.iatasOf)
  | iapd => exact Res.map_ne_panic h.iapdsOf
  | oneIAPD => exact Res.map_ne_panic (Res.map_ne_panic h.iapdsOf)
  | addresses => exact Res.map_ne_panic h.addressesOf
  | oneAddress => exact Res.map_ne_panic (Res.map_ne_panic h.addressesOf)
  -- every other accessor asserts its type checked: its model is `.ok _`
  | _ => exact nofun

theorem DecOpt.subSet {o : Opt6} (h : DecOpt o) {k : SetKind} {os : List Opt6}
    (hs : o.subSet = some (k, os)) : DecOpts os := by
  cases o with
  | iana | iata | iaaddr | iapd | iaprefix | fourRD => cases hs; exact h
  | _ => cases hs

theorem DecOpts.setAt : ∀ (path : List Nat) {k : SetKind} {os : List Opt6}, DecOpts os →
    ∀ {k' : SetKind} {os' : List Opt6}, setAt (k, os) path = some (k', os') → DecOpts os'
  | [], _, _, h, _, _, hs => by cases hs; exact h
  | i :: rest, _, os, h, _, _, hs => by
    simp only [V6.setAt] at hs
    cases hi : os[i]? with
    | none => simp [hi] at hs
    | some o =>
      cases hsub : o.subSet with
      | none => simp [hi, hsub] at hs
      | some s =>
        simp only [hi, hsub] at hs
        exact DecOpts.setAt rest ((h.mem (List.mem_of_getElem? hi)).subSet hsub) hs

theorem DecMsg.rootSet {m : Msg6} (h : DecMsg m) : DecOpts m.rootSet.2 := by
  cases m <;> exact h.opts

theorem accessAt_ne_panic {m : Msg6} (h : DecMsg m) (path : List Nat) (a : Acc) :
    accessAt m path a ≠ some .panic := by
  unfold accessAt
  cases hs : V6.setAt m.rootSet path with
  | none => nofun
  | some s =>
    obtain ⟨k, os⟩ := s
    exact ite_ne (fun _ => mt Option.some.inj ((DecOpts.setAt path h.rootSet hs).runAcc a)) fun _ => nofun

end Dhcp.V6
