import Dhcp.V6.Codec
import DhcpProofs.Lemmas.LabelApi
import DhcpProofs.Lemmas.V4Parse
import DhcpProofs.Lemmas.V6Basic
/-
  Panic-freedom of the DHCPv6 decoder model (C03): every helper decoder returns
  `ok`/`err` only, given that the label decoder and the DHCPv4 decoder never
  return `panic`; the mutually recursive `parseOpt`/`decOptsF`/`decMsgF` by
  induction on the fuel.
-/
namespace Dhcp.V6

theorem tlvLoop_ne_panic {α} (parse : Nat → Bytes → Res α) (hp : ∀ c d, parse c d ≠ .panic) :
    ∀ (fuel : Nat) (l : Lexer) (acc : List α), tlvLoop parse fuel l acc ≠ .panic := by
  intro fuel
  induction fuel with
  | zero => intro l acc; simp [tlvLoop]
  | succ fuel ih =>
    intro l acc
    unfold tlvLoop
    simp only []
    split
    · split
      · exact ih _ _
      · simp
      · rename_i h; exact absurd h (hp _ _)
    · split <;> simp

theorem optionsFromBytes_ne_panic {α} (parse : Nat → Bytes → Res α) (hp : ∀ c d, parse c d ≠ .panic)
    (data : Bytes) : optionsFromBytes parse data ≠ .panic := by
  unfold optionsFromBytes
  split
  · simp
  · exact tlvLoop_ne_panic parse hp _ _ _

theorem ite_ne_panic {α} {c : Prop} [Decidable c] {a b : Res α} (ha : a ≠ .panic) (hb : b ≠ .panic) :
    (if c then a else b) ≠ .panic := ite_ne (fun _ => ha) fun _ => hb

theorem decDUID_ne_panic (data : Bytes) : decDUID data ≠ .panic := by
  unfold decDUID; dsimp only
  refine ite_ne_panic nofun (ite_ne_panic nofun ?_)
  refine ite_ne_panic (fin_ne_panic _ _) (ite_ne_panic (fin_ne_panic _ _) (ite_ne_panic (fin_ne_panic _ _) ?_))
  exact ite_ne_panic (ite_ne_panic nofun nofun) nofun

theorem parseNTPSub_ne_panic (code : Nat) (data : Bytes) : parseNTPSub code data ≠ .panic := by
  unfold parseNTPSub; dsimp only
  refine ite_ne_panic (fin_ne_panic _ _) (ite_ne_panic (fin_ne_panic _ _) (ite_ne_panic ?_ nofun))
  split
  · exact ite_ne_panic nofun nofun
  · nofun
  · exact absurd ‹_› (Label.fromBytes_ne_panic data)

/-- how the four decoders of options with an option list end: the nested
`Options.FromBytes`, then `FinError` -/
theorem optsTail_ne_panic {α : Type} {r : Res (List Opt6)} {l : Lexer} {k : List Opt6 → α} (h : r ≠ .panic) :
    (match r with
      | .ok os => fin l (k os)
      | .err => .err
      | .panic => .panic) ≠ .panic := by
  cases r with
  | ok os => exact fin_ne_panic _ _
  | err => nofun
  | panic => exact absurd rfl h

theorem decIA_ne_panic (mk : Bytes → Dur → Dur → List Opt6 → Opt6) (decOpts : Bytes → Res (List Opt6))
    (h : ∀ d, decOpts d ≠ .panic) (data : Bytes) : decIA mk decOpts data ≠ .panic := by
  unfold decIA; dsimp only
  exact optsTail_ne_panic (h _)

theorem decIATA_ne_panic (decOpts : Bytes → Res (List Opt6))
    (h : ∀ d, decOpts d ≠ .panic) (data : Bytes) : decIATA decOpts data ≠ .panic := by
  unfold decIATA; dsimp only
  exact optsTail_ne_panic (h _)

theorem decIAAddr_ne_panic (decOpts : Bytes → Res (List Opt6))
    (h : ∀ d, decOpts d ≠ .panic) (data : Bytes) : decIAAddr decOpts data ≠ .panic := by
  unfold decIAAddr; dsimp only
  exact optsTail_ne_panic (h _)

theorem decIAPrefix_ne_panic (decOpts : Bytes → Res (List Opt6))
    (h : ∀ d, decOpts d ≠ .panic) (data : Bytes) : decIAPrefix decOpts data ≠ .panic := by
  unfold decIAPrefix; dsimp only
  exact ite_ne_panic nofun (optsTail_ne_panic (h _))

/- The `if code = …` chain is peeled branch by branch (`split`/`simp` on the whole
   definition exceed their step limits); each branch is a `fin`, a constant, or a
   `match` on a sub-decoder that does not panic. -/
theorem decSimple_ne_panic (code : Nat) (data : Bytes) : decSimple code data ≠ .panic := by
  have hv := optionsFromBytes_ne_panic (fun c d => Res.ok (c, d)) (fun _ _ => nofun)
  have hn := optionsFromBytes_ne_panic parseNTPSub parseNTPSub_ne_panic
  have hl := Label.fromBytes_ne_panic
  have h4 := V4.dec4_ne_panic data
  unfold decSimple; dsimp only
  refine ite_ne_panic (fin_ne_panic _ _) ?_   -- 6
  refine ite_ne_panic (fin_ne_panic _ _) ?_   -- 8
  refine ite_ne_panic (fin_ne_panic _ _) ?_   -- 13
  refine ite_ne_panic (ite_ne_panic nofun (fin_ne_panic _ _)) ?_   -- 15
  refine ite_ne_panic (ite_ne_panic nofun (fin_ne_panic _ _)) ?_   -- 16
  refine ite_ne_panic ?_ ?_   -- 17
  · split
    · exact fin_ne_panic _ _
    · nofun
    · exact absurd ‹_› (hv _)
  refine ite_ne_panic nofun ?_   -- 18
  refine ite_ne_panic (fin_ne_panic _ _) ?_   -- 23
  refine ite_ne_panic ?_ ?_   -- 24
  · split
    · nofun
    · nofun
    · exact absurd ‹_› (hl _)
  refine ite_ne_panic (fin_ne_panic _ _) ?_   -- 32
  refine ite_ne_panic (fin_ne_panic _ _) ?_   -- 37
  refine ite_ne_panic ?_ ?_   -- 39
  · split
    · exact fin_ne_panic _ _
    · nofun
    · exact absurd ‹_› (hl _)
  refine ite_ne_panic ?_ ?_   -- 56
  · split
    · nofun
    · nofun
    · exact absurd ‹_› (hn _)
  refine ite_ne_panic nofun ?_   -- 59
  refine ite_ne_panic (fin_ne_panic _ _) ?_   -- 60
  refine ite_ne_panic (ite_ne_panic nofun (fin_ne_panic _ _)) ?_   -- 61
  refine ite_ne_panic (fin_ne_panic _ _) ?_   -- 62
  refine ite_ne_panic (fin_ne_panic _ _) ?_   -- 79
  refine ite_ne_panic ?_ ?_   -- 87
  · split
    · nofun
    · nofun
    · exact absurd ‹_› h4
  refine ite_ne_panic (fin_ne_panic _ _) ?_   -- 88
  refine ite_ne_panic (ite_ne_panic nofun (fin_ne_panic _ _)) ?_   -- 98
  refine ite_ne_panic (fin_ne_panic _ _) ?_   -- 99
  refine ite_ne_panic (fin_ne_panic _ _) ?_   -- 135
  nofun

theorem dec_ne_panic : ∀ (fuel : Nat),
    (∀ c d, parseOpt fuel c d ≠ .panic) ∧ (∀ d, decOptsF fuel d ≠ .panic) ∧ (∀ d, decMsgF fuel d ≠ .panic) := by
  intro fuel
  induction fuel with
  | zero =>
    refine ⟨?_, ?_, ?_⟩
    · intro c d; simp [parseOpt]
    · intro d; simp [decOptsF]
    · intro d; simp [decMsgF]
  | succ fuel ih =>
    obtain ⟨ihP, ihO, ihM⟩ := ih
    refine ⟨?_, ?_, ?_⟩
    · intro c d
      unfold parseOpt
      refine ite_ne_panic (Res.map_ne_panic (decDUID_ne_panic _)) ?_
      refine ite_ne_panic (Res.map_ne_panic (decDUID_ne_panic _)) ?_
      refine ite_ne_panic (decIA_ne_panic _ _ (fun d => ihO d) _) ?_
      refine ite_ne_panic (decIATA_ne_panic _ (fun d => ihO d) _) ?_
      refine ite_ne_panic (decIAAddr_ne_panic _ (fun d => ihO d) _) ?_
      refine ite_ne_panic (Res.map_ne_panic (ihM _)) ?_
      refine ite_ne_panic (decIA_ne_panic _ _ (fun d => ihO d) _) ?_
      refine ite_ne_panic (decIAPrefix_ne_panic _ (fun d => ihO d) _) ?_
      refine ite_ne_panic (Res.map_ne_panic (ihO _)) ?_
      exact decSimple_ne_panic _ _
    · intro d
      unfold decOptsF
      exact optionsFromBytes_ne_panic _ (fun c d => ihP c d) _
    · intro d
      unfold decMsgF
      simp only []
      refine ite_ne_panic (by simp) ?_
      refine ite_ne_panic ?_ ?_
      · exact ite_ne_panic (by simp) (Res.map_ne_panic (ihO _))
      · exact ite_ne_panic (by simp) (Res.map_ne_panic (ihO _))

theorem dec6_ne_panic (b : Bytes) : dec6 b ≠ .panic := (dec_ne_panic _).2.2 b
theorem parseOption_ne_panic (code : Nat) (b : Bytes) : parseOption code b ≠ .panic := (dec_ne_panic _).1 code b
theorem decOpts_ne_panic (b : Bytes) : decOpts b ≠ .panic := (dec_ne_panic _).2.1 b

theorem decMessage_ne_panic (b : Bytes) : decMessage b ≠ .panic := by
  unfold decMessage
  split
  · nofun
  · nofun
  · exact dec6_ne_panic b

theorem decRelay_ne_panic (b : Bytes) : decRelay b ≠ .panic := by
  unfold decRelay
  split
  · nofun
  · nofun
  · exact dec6_ne_panic b

end Dhcp.V6
