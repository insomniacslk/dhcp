import Dhcp.V4.Values
import Dhcp.Spec.Val4
/-
  C17 helper lemmas: the fixed-size value types and strings.
  Each `…_eq` lemma says that a `FromBytes` model computes exactly the RFC
  interpretation of `Dhcp.Spec.Val4` (success with that value / error).
-/
namespace Dhcp.V4
open Dhcp.Spec

theorem GOpts.get_update_same (o : GOpts) (c : UInt8) (v : GoBytes) : (o.update c v).get c = v := by
  simp [GOpts.get, GOpts.update]

theorem GOpts.get_update_ne (o : GOpts) {c k : UInt8} (v : GoBytes) (h : k ≠ c) :
    (o.update c v).get k = o.get k := by
  simp [GOpts.get, GOpts.update, h]

theorem GOpts.get_empty (c : UInt8) : GOpts.empty.get c = none := rfl

theorem ipFromBytes_eq (v : Bytes) : ipFromBytes v = (Val4.ip v).map some := by
  unfold ipFromBytes
  match v with
  | [] | [_] | [_, _] | [_, _, _] | [_, _, _, _] | _ :: _ :: _ :: _ :: _ :: _ =>
    simp [Lexer.new, Lexer.copyN, Lexer.consume, Lexer.finError, Val4.ip]

/-- `IPMask.FromBytes` is the code of `IP.FromBytes`, and the two specs are one function -/
theorem maskFromBytes_eq (v : Bytes) : maskFromBytes v = (Val4.mask v).map some := ipFromBytes_eq v

theorem durationFromBytes_eq (v : Bytes) : durationFromBytes v = Val4.seconds v := by
  unfold durationFromBytes Val4.seconds
  match v with
  | [] | [_] | [_, _] | [_, _, _] | [_, _, _, _] | _ :: _ :: _ :: _ :: _ :: _ =>
    simp [Lexer.new, Lexer.read32, Lexer.consume, Lexer.finError, Val4.u32, beNat, second]

theorem uint16FromBytes_eq (v : Bytes) : uint16FromBytes v = Val4.u16 v := by
  unfold uint16FromBytes
  match v with
  | [] | [_] | [_, _] | _ :: _ :: _ :: _ =>
    simp [Lexer.new, Lexer.read16, Lexer.consume, Lexer.finError, Val4.u16, beNat]

theorem messageTypeFromBytes_eq (v : Bytes) : messageTypeFromBytes v = Val4.u8 v := by
  unfold messageTypeFromBytes
  match v with
  | [] | [_] | _ :: _ :: _ =>
    simp [Lexer.new, Lexer.read8, Lexer.consume, Lexer.finError, Val4.u8]

theorem getByte_eq (c : UInt8) (o : GOpts) :
    getByte c o = (match o.get c with
      | none => Res.err
      | some v => (match Val4.u8 v with
        | some b => Res.ok b
        | none => Res.err)) := by
  unfold getByte
  cases h : o.get c with
  | none => rfl
  | some v =>
    match v with
    | [] | [_] | _ :: _ :: _ => simp [Val4.u8]

theorem trimRightNul_eq (v : Bytes) : trimRightNul v = Val4.stripNul v := by
  induction v with
  | nil => rfl
  | cons b r ih =>
    unfold trimRightNul at ih ⊢
    rw [Val4.stripNul, ← ih, List.reverse_cons, List.dropWhile_append]
    cases h : List.dropWhile (fun x => x == 0) r.reverse with
    | nil =>
      by_cases hb : b = 0 <;> simp [hb]
    | cons x xs => simp

end Dhcp.V4
