import DhcpProofs.Lemmas.V6EncGrammar
/-
  Converse of the round trip of the leaf options (`PLeaf_enc`): whatever a leaf
  decoder of the DHCPv6 model returns, other than an embedded DHCPv4 message,
  lies in the round-trip domain (`WFOpt`), and its re-encoding is no longer than
  the value it was decoded from (equal to it for every such leaf except ORO and
  the two 4rd rules): `wf_of_pleaf`, read off the declarative layout `PLeaf`.  The
  re-encoding of option 87 can be longer (Lemmas/V6Fix.lean and V4Fix.lean take over).
-/
namespace Dhcp.V6
open Dhcp.Spec

theorem pntpSub_inv {c : Nat} {d : Bytes} {s : NTPSub} (hc : c < 65536) (h : PNTPSub c d s) :
    s.code = c ∧ encNTPSub s = d ∧ NTPSubOK s := by
  cases h with
  | srvAddr ha | mcAddr ha => exact ⟨rfl, writeTo16_some ha, _, rfl, ha⟩
  | srvFQDN hn h1 => exact ⟨rfl, (nameField_iff_OK.mp hn).2, (nameField_iff_OK.mp hn).1, h1⟩
  | other h1 h2 h3 => exact ⟨rfl, rfl, hc, h1, h2, h3⟩

theorem wf_of_eq {v : Bytes} {o : Opt6} (hw : WFOpt o) (he : encOpt o = v) :
    WFOpt o ∧ (encOpt o).length ≤ v.length :=
  ⟨hw, he ▸ Nat.le_refl _⟩

theorem wf_of_pleaf {c : Nat} {v : Bytes} {o : Opt6} (hc : c < 65536) (h87 : c ≠ 87) (h : PLeaf c v o) :
    WFOpt o ∧ (encOpt o).length ≤ v.length := by
  cases h with
  | dhcpv4Msg => exact absurd rfl h87
  | @oro v cs hu =>
    -- repeated codes are dropped: not longer
    obtain ⟨hlt, rfl⟩ := hu
    have := keepFirst_length cs
    refine ⟨⟨fun c hc => hlt c (mem_keepFirst.mp hc), keepFirst_nodup cs⟩, ?_⟩
    simp only [encOpt, flatMap_be16_length]; omega
  | @fourRDMapRule p4len p6len ea fl p4 p6 h4 h6 hl4 hl6 =>
    -- re-encoding writes the W bit alone: same length, not the same octets
    refine ⟨⟨h4, ⟨_, rfl, hl4⟩, h6, ⟨_, rfl, hl6⟩⟩, ?_⟩
    simp [encOpt, V4.to4, write16_some hl6, hl4, hl6]
  | fourRDNonMapRule hp => exact ⟨hp, by simp [encOpt]⟩
  | elapsed ht => exact wf_of_eq ⟨_, ht, rfl⟩ (congrArg be16 (durTo16_tenMs _ ht))
  | infoRefresh hs => exact wf_of_eq ⟨_, hs, rfl⟩ (encDur_seconds hs)
  | userClass hi hne => exact wf_of_eq ⟨hne, hi.1⟩ hi.2.symm
  | vendorClass hen hi hne => exact wf_of_eq ⟨hen, hne, hi.1⟩ (congrArg (be32 _ ++ ·) hi.2.symm)
  | bootfileParam hi => exact wf_of_eq hi.1 (by simp only [encOpt, filter_itemsOK _ hi.1, hi.2])
  | archType hu hne => exact wf_of_eq ⟨hne, hu.1⟩ hu.2.symm
  | vendorOpts hen hs =>
    obtain ⟨hv, hall⟩ := Tiles_flatMap Prod.fst Prod.snd (fun _ => True)
      (by intro c v x _ _ hx; subst hx; exact ⟨rfl, rfl, trivial⟩) (tiles_of_subOpts hs)
    exact wf_of_eq ⟨hen, fun x hx => ⟨(hall x hx).1, (hall x hx).2.1⟩⟩ (congrArg (be32 _ ++ ·) hv.symm)
  | ntp hs =>
    obtain ⟨hv, hall⟩ := Tiles_flatMap NTPSub.code encNTPSub NTPSubOK
      (fun c d s hc _ hx => pntpSub_inv hc hx) (tiles_of_subOpts hs)
    exact wf_of_eq (fun s hs => ⟨(hall s hs).2.2, (hall s hs).2.1⟩) hv.symm
  | dns ha | dhcp4o6Server ha => exact wf_of_eq (ip16_of_addrs ha).1 (ip16_of_addrs ha).2.symm
  | domainSearch hn => exact wf_of_eq (nameField_iff_OK.mp hn).1 (nameField_iff_OK.mp hn).2
  | fqdn hn => exact wf_of_eq (nameField_iff_OK.mp hn).1 (congrArg (_ :: ·) (nameField_iff_OK.mp hn).2)
  | generic hn => exact wf_of_eq ⟨hc, hn⟩ rfl
  | status h | remoteID h | clientLLA h | relayPort h => exact wf_of_eq h rfl
  | interfaceID | bootfileURL | nii => exact wf_of_eq trivial rfl

end Dhcp.V6
