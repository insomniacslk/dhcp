import DhcpProofs.Lemmas.ClientLTSHist
/-
  Progress after Close (C11, part 2): in every reachable state in which the
  client is closed, either everything has finished or some step of the client
  itself (not of the environment) is enabled.
-/
namespace Dhcp.Client.LTS

def AllDone (s : State) : Prop :=
  s.rx = .exited ∧ s.closeReturned = true ∧ ∀ i, (getC s i).pc = .idle ∨ ∃ res, (getC s i).pc = .returned res

def CanStep (cfg : Cfg) (s : State) : Prop := ∃ l, isEnv l = false ∧ (step cfg s l).isSome = true

/-- A caller between `register` and `cancel1` needs no lock to move on once the client is closed. -/
theorem doneOpen_can_step (cfg : Cfg) (s : State) (hc : s.closed = true) (i : Nat)
    (h : (getC s i).pc.doneOpen = true) : CanStep cfg s := by
  cases hpc : (getC s i).pc <;> rw [hpc] at h <;> try cases h
  case registered r => exact ⟨.transmitFail i, rfl, by simp [step, hpc, hc]⟩
  case waiting r => exact ⟨.giveUpClosed i, rfl, by simp [step, hpc, hc]⟩
  case leaving r w => exact ⟨.cancel1 i, rfl, by simp only [step, hpc]; split <;> rfl⟩
  case matching r p =>
    cases p with
    | none => exact ⟨.accept i, rfl, by simp only [step, hpc]; split <;> rfl⟩
    | some p =>
      by_cases ha : accepted (cfg.caller i) p.d = true
      · exact ⟨.accept i, rfl, by simp [step, hpc, ha]⟩
      · exact ⟨.reject i, rfl, by simp [step, hpc, ha]⟩

/-- A caller inside a lock region can always leave it. -/
theorem inCS_can_step (cfg : Cfg) (s : State) (hm : MutexInv s) (i : Nat) (h : (getC s i).pc.inCS = true) :
    CanStep cfg s := by
  have hmu : s.mutex = some (.caller i) := (hm.c i).2 h
  cases hpc : (getC s i).pc <;> rw [hpc] at h <;> try cases h
  case regLocked =>
    cases hp : s.pending.get (cfg.caller i).xid with
    | none => exact ⟨.register i, rfl, by simp [step, hpc, hmu, hp]⟩
    | some r => exact ⟨.refuse i, rfl, by simp [step, hpc, hmu, hp]⟩
  case cancelLocked r w =>
    refine ⟨.cancel2 i, rfl, ?_⟩
    simp only [step, hpc, hmu]
    cases hp : s.pending.get (cfg.caller i).xid with
    | none => simp
    | some r' =>
      simp only [ne_eq, not_true_eq_false, if_false]
      split <;> (try split) <;> simp

/-- While the receive loop is outside its lock region the mutex is free, or the caller holding it can move. -/
theorem mutex_free_or_can_step (cfg : Cfg) (s : State) (hm : MutexInv s) (hrx : s.rx.inCS = false) :
    s.mutex = none ∨ CanStep cfg s := by
  cases hmu : s.mutex with
  | none => exact .inl rfl
  | some o =>
    cases o with
    | rx => rw [hm.rx.1 hmu] at hrx; cases hrx
    | caller k => exact .inr (inCS_can_step cfg s hm k ((hm.c k).1 hmu))

/-- A caller that is neither idle nor returned can move, or whoever holds the
mutex it needs can. -/
theorem caller_can_step (cfg : Cfg) (s : State) (hm : MutexInv s) (hc : s.closed = true) (hrx : s.rx.inCS = false)
    (i : Nat) (h : ¬ ((getC s i).pc = .idle ∨ ∃ res, (getC s i).pc = .returned res)) : CanStep cfg s := by
  cases hpc : (getC s i).pc with
  | idle => exact absurd (.inl hpc) h
  | returned res => exact absurd (.inr ⟨res, hpc⟩) h
  | start | leaving2 =>
    exact (mutex_free_or_can_step cfg s hm hrx).elim (fun hmu => ⟨.lock i, rfl, by simp [step, hpc, hmu]⟩) id
  | regLocked | cancelLocked => exact inCS_can_step cfg s hm i (by rw [hpc]; rfl)
  | registered | waiting | matching | leaving => exact doneOpen_can_step cfg s hc i (by rw [hpc]; rfl)
  | after w =>
    by_cases hd : w = .deadline ∧ decTries (getC s i).triesLeft ≠ some 0
    · obtain ⟨rfl, hd⟩ := hd
      exact ⟨.nextTry i, rfl, by simp [step, hpc, hd]⟩
    · exact ⟨.ret i, rfl, by simp [step, hpc, hd]⟩

/-- Deadlock freedom after Close. -/
theorem closed_progress (cfg : Cfg) (hf : cfg.cancelChecksOwner = true) (s : State) (hr : Reachable cfg s)
    (hc : s.closed = true) : AllDone s ∨ CanStep cfg s := by
  have hi := reach_all cfg hf s hr
  have hm := hi.m
  cases hrx : s.rx with
  | idle => exact Or.inr ⟨.rxExit, rfl, by simp [step, hrx, hc]⟩
  | got p =>
    by_cases hok : p.d.ok = true
    · exact Or.inr ⟨.rxPass, rfl, by simp [step, hrx, hok]⟩
    · exact Or.inr ⟨.rxDrop, rfl, by simp [step, hrx, hok]⟩
  | unlocking =>
    have hmu : s.mutex = some .rx := hm.rx.2 (by rw [hrx]; rfl)
    exact Or.inr ⟨.rxUnlock, rfl, by simp [step, hrx, hmu]⟩
  | passed p =>
    exact Or.inr ((mutex_free_or_can_step cfg s hm (by rw [hrx]; rfl)).elim
      (fun hmu => ⟨.rxLock, rfl, by simp [step, hrx, hmu]⟩) id)
  | sending p r =>
    have hmu : s.mutex = some .rx := hm.rx.2 (by rw [hrx]; rfl)
    have hpend := hi.w.rxsend p r hrx
    have hcl := (hi.w.pend _ r hpend).2.2
    by_cases hdc : (getR s r).doneClosed = true
    · exact Or.inr ⟨.rxDoneDrop, rfl, by simp [step, hrx, hmu, hdc, hcl]⟩
    · by_cases hroom : (getR s r).buf.length < (getR s r).cap ∨
          ((getR s r).buf = [] ∧ (getC s (getR s r).owner).pc = .waiting r)
      · exact Or.inr ⟨.rxDeliver, rfl, by simp [step, hrx, hmu, hroom, hcl]⟩
      · -- the loop is parked on a full channel holding the mutex; `done` is still open, so its
        -- owner is between `register` and `cancel1` and needs no lock
        exact Or.inr (doneOpen_can_step cfg s hc _
          ((hi.w.dopen _ r (hi.w.powner _ r hpend)).1 (by simpa using hdc)))
  | exited =>
    by_cases hcr : s.closeReturned = true
    · by_cases hall : ∀ i, (getC s i).pc = .idle ∨ ∃ res, (getC s i).pc = .returned res
      · exact Or.inl ⟨hrx, hcr, hall⟩
      · have ⟨i, hi'⟩ := Classical.not_forall.1 hall
        exact Or.inr (caller_can_step cfg s hm hc (by rw [hrx]; rfl) i hi')
    · exact Or.inr ⟨.closeReturn, rfl, by simp [step, hrx, hc, hcr]⟩
end Dhcp.Client.LTS
