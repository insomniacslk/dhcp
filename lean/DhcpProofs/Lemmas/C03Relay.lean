import DhcpProofs.Lemmas.C03Decoded
import DhcpProofs.Lemmas.V6BuildChain
import DhcpProofs.Lemmas.C03Strings
/-
  C03 over the relay helpers of dhcpv6/dhcpv6.go and dhcpv6/iputils.go
  (model: Dhcp/V6/Build.lean): `DecapsulateRelay`, `DecapsulateRelayIndex`
  (every index), `GetMacAddressFromEUI64`, `ExtractMAC`: no panic, and what is
  returned from a decoded message is decoded.  Which level the loops return is
  characterised on `Chain` / `Broken` in Lemmas/V6BuildChain.lean.
-/
namespace Dhcp.V6

/-! ### what every loop over `DecapsulateRelay` returns

One induction per loop, for any property `P` that a `DecapsulateRelay` step keeps:
no result is a panic, and a result has `P` when the argument has. `P := True`
gives panic freedom for every message value, `P := DecMsg` that results stay
decoded. -/

section
variable {P : Msg6 → Prop} (hP : ∀ {l d}, P l → decapsulateRelay l = .ok d → P d)
include hP

theorem decapN_spec : ∀ (n : Nat) (l : Msg6), P l → decapN n l = .err ∨ ∃ r, decapN n l = .ok r ∧ P r
  | 0, l, h => .inr ⟨l, rfl, h⟩
  | n + 1, l, h => by
    rcases Res.of_ne_panic (decapsulateRelay_ne_panic l) with e | ⟨d, e⟩ <;> simp only [decapN, e, Res.bind]
    · exact .inl trivial
    · exact decapN_spec n d (hP h e)

theorem lastRelay_spec : ∀ (f : Nat) (l : Msg6), P l → l.isRelay = true → lastRelay f l = .err ∨
    ∃ r d, lastRelay f l = .ok r ∧ P r ∧ r.isRelay = true ∧ decapsulateRelay r = .ok d ∧ d.isRelay = false
  | 0, _, _, _ => .inl rfl
  | f + 1, l, h, hl => by
    rcases Res.of_ne_panic (decapsulateRelay_ne_panic l) with e | ⟨d, e⟩ <;> simp only [lastRelay, e]
    · exact .inl trivial
    · by_cases hr : d.isRelay = true
      · simp only [hr, if_true]; exact lastRelay_spec f d (hP h e) hr
      · simp only [hr]; exact .inr ⟨l, d, rfl, h, hl, e, by simpa using hr⟩

theorem innermost_spec {l : Msg6} (h : P l) (hl : l.isRelay = true) :
    (decapsulateRelayIndex l (-1) = .err ∧ getInnerMessage l = .err) ∨
    ∃ r d, decapsulateRelayIndex l (-1) = .ok r ∧ getInnerMessage l = .ok d ∧
      P r ∧ r.isRelay = true ∧ P d ∧ d.isRelay = false := by
  have hg : getInnerMessage l = (lastRelay (msgDepth l + 1) l).bind decapsulateRelay := by
    obtain ⟨t, hc, lk, p, os, rfl⟩ := isRelay_iff.mp hl
    exact innerLoop_eq _ _
  rw [decapsulateRelayIndex_neg_one hl, hg]
  rcases lastRelay_spec hP _ l h hl with e | ⟨r, d, e, hr, hrr, ed, hd⟩ <;> rw [e]
  · exact .inl ⟨rfl, rfl⟩
  · exact .inr ⟨r, d, rfl, ed, hr, hrr, hP hr ed, hd⟩

theorem decapsulateRelayIndex_spec (l : Msg6) (i : Int) (h : P l) :
    decapsulateRelayIndex l i = .err ∨ ∃ r, decapsulateRelayIndex l i = .ok r ∧ P r := by
  by_cases hl : l.isRelay = true
  · by_cases h1 : i < -1
    · exact .inl (decapsulateRelayIndex_lt hl h1)
    · by_cases h2 : i = -1
      · subst h2
        exact (innermost_spec hP h hl).imp And.left fun ⟨r, _, e, _, hr, _⟩ => ⟨r, e, hr⟩
      · obtain ⟨k, rfl⟩ : ∃ k : Nat, i = k := ⟨i.toNat, by omega⟩
        rw [decapsulateRelayIndex_nat hl]
        exact decapN_spec hP _ l h
  · exact .inr ⟨l, by simp [decapsulateRelayIndex, hl], h⟩

end

theorem decapsulateRelayIndex_ne_panic (l : Msg6) (index : Int) : decapsulateRelayIndex l index ≠ .panic := by
  rcases decapsulateRelayIndex_spec (P := fun _ => True) (fun _ _ => trivial) l index trivial with e | ⟨r, e, _⟩ <;>
    rw [e] <;> nofun

theorem decapN_ok_or_err (c : Msg6) (n : Nat) : decapN n c = .err ∨ ∃ c', decapN n c = .ok c' :=
  (decapN_spec (P := fun _ => True) (fun _ _ => trivial) n c trivial).imp_right fun ⟨r, e, _⟩ => ⟨r, e⟩

theorem decapsulateRelay_dec {l d : Msg6} (hl : DecMsg l) (h : decapsulateRelay l = .ok d) : DecMsg d := by
  cases l with
  | msg t x os => cases h; exact hl
  | relay t hc lk p os =>
    simp only [decapsulateRelay] at h
    split at h
    · next m hm => cases h; exact hl.opts.relayMessageOf hm
    · cases h

theorem decapsulateRelayIndex_dec {l r : Msg6} {i : Int} (hl : DecMsg l) (h : decapsulateRelayIndex l i = .ok r) :
    DecMsg r := by
  rcases decapsulateRelayIndex_spec decapsulateRelay_dec l i hl with e | ⟨r', e, hr⟩ <;> rw [e] at h <;> cases h
  exact hr

theorem getInnerMessage_dec {p m : Msg6} (hp : DecMsg p) (h : getInnerMessage p = .ok m) :
    DecMsg m ∧ m.isRelay = false := by
  cases p with
  | msg t x os => cases h; exact ⟨hp, rfl⟩
  | relay t hc l pr os =>
    rcases innermost_spec decapsulateRelay_dec hp rfl with ⟨_, e⟩ | ⟨_, d, _, e, _, _, hd⟩ <;> rw [e] at h <;> cases h
    exact hd

/-- **exactly the 4-byte addresses make `GetMacAddressFromEUI64` panic**: they
pass the `ip.To16() == nil` test and then `ip[11]` is out of range; nil, 16-byte
and every other length return a value or an error. -/
theorem getMacAddressFromEUI64_panic_iff (ip : IP) :
    getMacAddressFromEUI64 ip = .panic ↔ ∃ b, ip = some b ∧ b.length = 4 := by
  cases ip with
  | none => simp [getMacAddressFromEUI64]
  | some b =>
    simp only [getMacAddressFromEUI64, Option.some.injEq, exists_eq_left']
    by_cases h4 : b.length = 4
    · simp [to16, h4]
    · refine iff_of_false (ite_ne (fun _ => nofun) fun h => ?_) h4
      -- `To16` is not nil and the length is not 4: 16 bytes, so every index and slice below is in range
      have h16 : b.length = 16 := Decidable.byContradiction fun h16 => h (by simp [to16, h4, h16])
      rw [List.getElem?_eq_getElem (by omega), List.getElem?_eq_getElem (by omega)]
      refine ite_ne (fun _ => nofun) fun _ => ite_ne (fun _ => nofun) fun _ => ite_ne (fun hl => by omega) fun _ => ?_
      split
      · nofun
      · next hq =>
        have := congrArg List.length hq
        simp only [List.length_append, List.length_take, List.length_drop, List.length_nil] at this
        omega

theorem getMacAddressFromEUI64_ne_panic_of_ip16 {ip : IP} (h : IP16 ip) : getMacAddressFromEUI64 ip ≠ .panic := by
  intro hp
  obtain ⟨b, hb, hl⟩ := (getMacAddressFromEUI64_panic_iff ip).mp hp
  obtain ⟨b', hb', hl'⟩ := h
  rw [hb] at hb'; cases hb'; omega

theorem extractMAC_msg_ne_panic {t : UInt8} {x : Bytes} {os : List Opt6} (h : DecOpts os) :
    extractMAC (.msg t x os) ≠ .panic := by
  simp only [extractMAC]
  split
  · exact absurd ‹_› h.clientIDOf
  all_goals nofun

theorem extractMAC_dec {m : Msg6} (hm : DecMsg m) : extractMAC m ≠ .panic := by
  cases m with
  | msg t x os => exact extractMAC_msg_ne_panic hm.2
  | relay t hc l p os =>
    simp only [extractMAC]
    -- index `-1` gives a relay level (decoded: a 16-byte peer address), `GetInnerMessage` a decoded non-relay message
    rcases innermost_spec decapsulateRelay_dec hm rfl with ⟨e, _⟩ | ⟨r, d, e, ei, hr, hrr, hd, hdr⟩ <;> rw [e]
    · nofun
    · obtain ⟨t', hc', l', p', os', rfl⟩ := isRelay_iff.mp hrr
      obtain ⟨t'', x'', os'', rfl⟩ := not_isRelay_iff.mp hdr
      simp only [ei]
      split
      · nofun
      · split
        · nofun
        · exact absurd ‹_› (getMacAddressFromEUI64_ne_panic_of_ip16 hr.2.2.1)
        · exact extractMAC_msg_ne_panic (t := t'') (x := x'') hd.2

end Dhcp.V6
