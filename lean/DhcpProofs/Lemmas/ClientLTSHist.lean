import DhcpProofs.Lemmas.ClientLTS
/-
  Invariant 4 of the interleaving model: what each caller has seen so far
  (matcher history), from which "own transaction", "first match" and "arrived
  while the call was waiting" follow.  `reach_all`: invariants 1-4, and that no
  caller holds or returns a nil packet, in every reachable state (`AllInv`).
-/
namespace Dhcp.Client.LTS

def firstAcc (cc : CallerCfg) (routed : List Pkt) : Option Pkt := routed.find? (fun q => accepted cc q.d)

theorem firstAcc_mid (cc : CallerCfg) (rej buf : List Pkt) (p : Pkt)
    (h2 : ∀ q ∈ rej, accepted cc q.d = false) (h3 : accepted cc p.d = true) :
    firstAcc cc (rej ++ [p] ++ buf) = some p :=
  List.find?_eq_some_iff_append.2 ⟨h3, rej, buf, by simp, fun q hq => by simp [h2 q hq]⟩

def CPc.result : CPc → Option Pkt
  | .leaving _ (.resp (some p)) | .leaving2 _ (.resp (some p)) | .cancelLocked _ (.resp (some p))
  | .after (.resp (some p)) | .returned (.ok (some p)) => some p
  | _ => none

section
variable (r : Nat) (p : Pkt) (w : Why) (res : Ret) (op : Option Pkt)
@[simp, grind =] theorem result_idle : CPc.result .idle = none := rfl
@[simp, grind =] theorem result_start : CPc.result .start = none := rfl
@[simp, grind =] theorem result_regLocked : CPc.result .regLocked = none := rfl
@[simp, grind =] theorem result_registered : CPc.result (.registered r) = none := rfl
@[simp, grind =] theorem result_waiting : CPc.result (.waiting r) = none := rfl
@[simp, grind =] theorem result_matching : CPc.result (.matching r op) = none := rfl
@[simp, grind =] theorem result_leaving_resp : CPc.result (.leaving r (.resp (some p))) = some p := rfl
@[simp, grind =] theorem result_leaving2 : CPc.result (.leaving2 r w) = CPc.result (.leaving r w) := by
  cases w <;> try rfl
  next p => cases p <;> rfl
@[simp, grind =] theorem result_cancelLocked : CPc.result (.cancelLocked r w) = CPc.result (.leaving r w) := by
  cases w <;> try rfl
  next p => cases p <;> rfl
@[simp, grind =] theorem result_after : CPc.result (.after w) = CPc.result (.leaving 0 w) := by
  cases w <;> try rfl
  next p => cases p <;> rfl
@[simp, grind =] theorem result_leaving_r : CPc.result (.leaving r w) = CPc.result (.leaving 0 w) := by
  cases w <;> try rfl
  next p => cases p <;> rfl
@[simp, grind =] theorem result_returned : CPc.result (.returned (retOf w)) = CPc.result (.leaving 0 w) := by
  cases w <;> try rfl
  next p => cases p <;> rfl
@[simp, grind =] theorem result_leaving_deadline : CPc.result (.leaving 0 .deadline) = none := rfl
@[simp, grind =] theorem result_leaving_ctx : CPc.result (.leaving 0 .ctx) = none := rfl
@[simp, grind =] theorem result_leaving_closed : CPc.result (.leaving 0 .closed) = none := rfl
@[simp, grind =] theorem result_leaving_txfail : CPc.result (.leaving 0 .txfail) = none := rfl
@[simp, grind =] theorem result_leaving_txerr : CPc.result (.leaving 0 .txerr) = none := rfl
@[simp, grind =] theorem result_returned_writeErr : CPc.result (.returned .writeErr) = none := rfl
@[simp, grind =] theorem result_leaving_nil : CPc.result (.leaving 0 (.resp none)) = none := rfl
@[simp, grind =] theorem result_returned_noResp : CPc.result (.returned .noResp) = none := rfl
@[simp, grind =] theorem result_returned_inUse : CPc.result (.returned .inUse) = none := rfl
@[simp, grind =] theorem result_returned_crash : CPc.result (.returned .crash) = none := rfl
end

/-- The packet a caller has taken from its channel and not yet let go of: the one it is matching,
and from `accept` on the one it returns. -/
def CPc.inHand : CPc → Option Pkt
  | .matching _ op => op
  | pc => pc.result

/-- A registration's ghost lists, whoever owns it: `routed` is what was rejected, then what the
owner is looking at, then what still waits, and the owner's matcher did refuse what was rejected. -/
structure RegOK (cfg : Cfg) (g : Reg) : Prop where
  rej : ∀ q ∈ g.rejected, accepted (cfg.caller g.owner) q.d = false
  split : g.routed = g.rejected ++ g.hand.toList ++ g.buf

/-- What caller `i` with record `c` knows of the registrations `R`, `n` of them, when the loop has
finished with `pr` datagrams. `at_`: the one its program counter names holds what it has in hand
and is its latest, born after the call began. `got`: the packet it returns (or is about to) is in
the hands of its latest registration, which is its own, and its matcher accepted it. -/
structure COK (cfg : Cfg) (i : Nat) (c : Caller) (n pr : Nat) (R : Nat → Reg) : Prop where
  at_ : ∀ r, c.pc.reg = some r → (R r).hand = c.pc.inHand ∧ c.lastReg = r ∧ c.startProc ≤ (R r).bornAt
  got : ∀ p, c.pc.result = some p → c.lastReg < n ∧ (R c.lastReg).owner = i ∧
    (R c.lastReg).xid = (cfg.caller i).xid ∧ c.startProc ≤ (R c.lastReg).bornAt ∧ (R c.lastReg).hand = some p ∧
    accepted (cfg.caller i) p.d = true
  proc : c.startProc ≤ pr

/-- Invariant 4. -/
structure HInv (cfg : Cfg) (s : State) : Prop where
  reg : ∀ r, RegOK cfg (getR s r)
  c : ∀ i, COK cfg i (getC s i) s.nregs s.processed (getR s)

theorem init_hinv (cfg : Cfg) : HInv cfg init := ⟨fun _ => ⟨nofun, rfl⟩, fun _ => ⟨nofun, nofun, Nat.le_refl 0⟩⟩


theorem Got_first {cfg : Cfg} {s : State} (hh : HInv cfg s) {i : Nat} {p : Pkt}
    (h : (getC s i).pc.result = some p) :
    firstAcc (cfg.caller i) (getR s (getC s i).lastReg).routed = some p := by
  obtain ⟨_, ho, _, _, hhand, ha⟩ := (hh.c i).got p h
  rw [(hh.reg _).split, hhand]
  exact firstAcc_mid _ _ _ _ (fun q hq => ho ▸ (hh.reg _).rej q hq) ha

/-- What `HInv` reads; of `nregs` and `processed` only that they do not fall. -/
theorem HInv.congr {cfg : Cfg} {s s' : State} (hh : HInv cfg s) (hc : s'.callers = s.callers)
    (hr : s'.regs = s.regs) (hn : s.nregs ≤ s'.nregs := by exact Nat.le_refl _)
    (hp : s.processed ≤ s'.processed := by exact Nat.le_refl _) : HInv cfg s' := by
  cases s; cases s'; cases hc; cases hr
  refine ⟨hh.reg, fun i => ⟨(hh.c i).at_, fun p h => ?_, Nat.le_trans (hh.c i).proc hp⟩⟩
  have := (hh.c i).got p h
  exact ⟨Nat.lt_of_lt_of_le this.1 hn, this.2⟩

theorem HInv.put {cfg : Cfg} {s : State} (hh : HInv cfg s) (i : Nat) (c : Caller)
    (hc : COK cfg i c s.nregs s.processed (getR s)) : HInv cfg (setC s i c) := by
  refine ⟨hh.reg, fun j => ?_⟩
  by_cases hj : j = i
  · subst hj; rw [getC_setC, if_pos rfl]; exact hc
  · rw [getC_ne _ _ hj]; exact hh.c j

/-- A caller moves on: what it holds, its latest registration and its starting point stay, it names
no other registration, and it gains no result or one that is its due. -/
theorem COK.move {cfg : Cfg} {i n pr : Nat} {c0 c : Caller} {R : Nat → Reg} (h : COK cfg i c0 n pr R)
    (hreg : ∀ r, c.pc.reg = some r → c0.pc.reg = some r) (hhand : c.pc.inHand = c0.pc.inHand)
    (hres : ∀ p, c.pc.result = some p → c0.pc.result = some p ∨
      ∃ r, c0.pc.reg = some r ∧ r < n ∧ (R r).owner = i ∧ (R r).xid = (cfg.caller i).xid ∧
        c0.pc.inHand = some p ∧ accepted (cfg.caller i) p.d = true)
    (hl : c.lastReg = c0.lastReg) (hs : c.startProc = c0.startProc) : COK cfg i c n pr R := by
  refine ⟨fun r hr => hhand ▸ hl ▸ hs ▸ h.at_ r (hreg r hr), fun p hp => ?_, hs ▸ h.proc⟩
  rw [hl, hs]
  rcases hres p hp with h0 | ⟨r, hr, hlt, ho, hx, hh, ha⟩
  · exact h.got p h0
  · obtain ⟨a1, rfl, a3⟩ := h.at_ r hr
    exact ⟨hlt, ho, hx, a3, a1.trans hh, ha⟩


/-- A registration changes in what no caller reads of it. -/
theorem HInv.touch {cfg : Cfg} {s : State} (hh : HInv cfg s) (r : Nat) (g : Reg) (hg : RegOK cfg g)
    (hhand : g.hand = (getR s r).hand) (ho : g.owner = (getR s r).owner) (hx : g.xid = (getR s r).xid)
    (hb : g.bornAt = (getR s r).bornAt) : HInv cfg (setR s r g) := by
  refine ⟨fun q => ?_, fun j => ⟨fun q h => ?_, fun p h => ?_, (hh.c j).proc⟩⟩
  · rw [getR_setR]; split
    · exact hg
    · exact hh.reg q
  · have := (hh.c j).at_ q h
    rw [getR_setR]; split
    · next e => rw [hhand, hb, ← e]; exact this
    · exact this
  · have := (hh.c j).got p h
    rw [getR_setR]; split
    · next e => rw [ho, hx, hb, hhand, ← e]; exact this
    · exact this

/-- Caller `i` and registration `r`, to which nobody else refers, change together; `i` stays at `r`. -/
theorem HInv.turn {cfg : Cfg} {s : State} (hh : HInv cfg s) (i r : Nat) (c : Caller) (g : Reg)
    (hsole : ∀ j, j ≠ i → (getC s j).pc.reg ≠ some r ∧ ∀ p, (getC s j).pc.result = some p → (getC s j).lastReg ≠ r)
    (hg : RegOK cfg g) (hc : c.pc.reg = some r) (hres : c.pc.result = none)
    (ha : g.hand = c.pc.inHand ∧ c.lastReg = r ∧ c.startProc ≤ g.bornAt) (hp : c.startProc ≤ s.processed) :
    HInv cfg (setC (setR s r g) i c) := by
  have hR q : getR (setC (setR s r g) i c) q = if q = r then g else getR s q := getR_setR ..
  refine ⟨fun q => ?_, fun j => ?_⟩
  · rw [hR]; split
    · exact hg
    · exact hh.reg q
  · rw [getC_setC]; split
    -- `i` itself: it names `r` and has no result
    · refine ⟨fun q h => ?_, fun p h => ?_, hp⟩
      · obtain rfl : r = q := Option.some.inj (hc.symm.trans h)
        rw [hR, if_pos rfl]; exact ha
      · rw [hres] at h; cases h
    -- anybody else refers to other registrations
    · next hj =>
      refine ⟨fun q h => ?_, fun p h => ?_, (hh.c j).proc⟩
      · rw [hR, if_neg fun e : q = r => (hsole j hj).1 (e ▸ h)]; exact (hh.c j).at_ q h
      · rw [hR, if_neg ((hsole j hj).2 p h)]; exact (hh.c j).got p h
/-- A registration is referred to by its owner only. -/
theorem HInv.sole {cfg : Cfg} {s : State} (hh : HInv cfg s) (hw : WF cfg s) {i r : Nat}
    (hn : (getC s i).pc.reg = some r) (j : Nat) (hj : j ≠ i) :
    (getC s j).pc.reg ≠ some r ∧ ∀ p, (getC s j).pc.result = some p → (getC s j).lastReg ≠ r :=
  ⟨fun h => hj (hw.sole hn h),
   fun p hp e => hj ((e ▸ ((hh.c j).got p hp).2.1).symm.trans (hw.pcreg i r hn).2.1)⟩

theorem step_hinv {cfg : Cfg} {s s' : State} {l : Label} (hw : WF cfg s) (hh : HInv cfg s)
    (h : Step cfg s l s') : HInv cfg s' := by
  cases h
  case bad h _ => exact (h.elim hw).elim
  case arrive | advance | close | closeReturn | rxRead | rxExit | rxPass | rxLockSome | rxLockNone =>
    exact hh.congr rfl rfl
  case rxDrop | rxUnlock => exact hh.congr rfl rfl (Nat.le_refl _) (Nat.le_succ _)
  case timerFire | ctxDone | transmit | transmitFail | transmitErr | giveUp | giveUpCtx | giveUpClosed
      | nextTry | ret | lockStart | lockCancel | refuse | cancel2Skip =>
    exact (hh.put _ _ ((hh.c _).move (by simp [*]) (by simp [*, CPc.inHand])
      (by intro p h; exact .inl (by revert h; simp [*])) (by rfl) (by rfl))).congr rfl rfl
  case call | callZero => exact hh.put _ _ ⟨nofun, nofun, Nat.le_refl _⟩
  -- `accept` produces the result: the packet in hand, of the caller's own registration
  case accept i r p hpc ha =>
    have w := hw.pcreg i r (by simp [hpc])
    refine hh.put _ _ ((hh.c i).move (by simp [*]) (by simp [*, CPc.inHand]) (fun q hq => .inr ?_) (by rfl) (by rfl))
    obtain rfl : p = q := by simpa using hq
    exact ⟨r, by simp [hpc], w.1, w.2.1, w.2.2, by simp [hpc, CPc.inHand], ha⟩
  -- `take`: the head of `buf` becomes `hand`; `reject`: `hand` joins `rejected`, and the matcher did refuse it
  case take i r p rest hpc hb =>
    have a := (hh.c i).at_ r (by simp [hpc])
    have hhand : (getR s r).hand = none := a.1.trans (by rw [hpc]; rfl)
    exact hh.turn i r _ _ (hh.sole hw (by simp [hpc])) ⟨(hh.reg r).rej, by simpa [hhand, hb] using (hh.reg r).split⟩
      rfl rfl ⟨rfl, a.2⟩ (hh.c i).proc
  case reject i r p hpc ha =>
    have a := (hh.c i).at_ r (by simp [hpc])
    have hhand : (getR s r).hand = some p := a.1.trans (by rw [hpc]; rfl)
    refine hh.turn i r _ _ (hh.sole hw (by simp [hpc])) ⟨fun q hq => ?_, by simpa [hhand] using (hh.reg r).split⟩
      rfl rfl ⟨rfl, a.2⟩ (hh.c i).proc
    rcases List.mem_append.1 hq with hq | hq
    · exact (hh.reg r).rej q hq
    · obtain rfl : q = p := by simpa using hq
      exact (hw.pcreg i r (by simp [hpc])).2.1 ▸ ha
  case cancel1 | cancel2 =>
    exact ((hh.put _ _ ((hh.c _).move (by simp [*]) (by simp [*, CPc.inHand])
      (by intro p h; exact .inl (by revert h; simp [*])) (by rfl) (by rfl))).touch _ _ (by exact { hh.reg _ with })
      (by rfl) (by rfl) (by rfl) (by rfl)).congr rfl rfl
  case rxDoneDrop => exact (hh.touch _ _ (by exact { hh.reg _ with }) (by rfl) (by rfl) (by rfl) (by rfl)).congr rfl rfl
  -- `rxDeliver`: `routed` and `buf` grow by the same packet
  case rxDeliver p r hrx hm hroom hcl =>
    exact (hh.touch r _ (by exact ⟨(hh.reg r).rej, by simp [(hh.reg r).split]⟩) (by rfl) (by rfl) (by rfl) (by rfl)).congr
      rfl rfl
  -- `register`: the new entry is empty, born now, and has an index nobody refers to yet
  case register i hpc hm hp =>
    exact (hh.turn i s.nregs _ _ (fun j _ => ⟨fun h => Nat.lt_irrefl _ (hw.pcreg j _ h).1,
      fun p hp e => Nat.lt_irrefl _ (e ▸ ((hh.c j).got p hp).1)⟩) (by exact ⟨nofun, rfl⟩) rfl rfl
      (by exact ⟨rfl, rfl, (hh.c i).proc⟩) (by exact (hh.c i).proc)).congr rfl rfl (Nat.le_succ _)

def CPc.nilish : CPc → Bool
  | .matching _ none | .leaving _ (.resp none) | .leaving2 _ (.resp none) | .cancelLocked _ (.resp none)
  | .after (.resp none) | .returned (.ok none) | .returned .crash => true
  | _ => false

section
variable (r : Nat) (w : Why)
@[simp, grind =] theorem nilish_leaving2 : CPc.nilish (.leaving2 r w) = CPc.nilish (.after w) := by
  cases w <;> try rfl
  next p => cases p <;> rfl
@[simp, grind =] theorem nilish_cancelLocked : CPc.nilish (.cancelLocked r w) = CPc.nilish (.after w) := by
  cases w <;> try rfl
  next p => cases p <;> rfl
@[simp, grind =] theorem nilish_leaving : CPc.nilish (.leaving r w) = CPc.nilish (.after w) := by
  cases w <;> try rfl
  next p => cases p <;> rfl
@[simp, grind =] theorem nilish_returned : CPc.nilish (.returned (retOf w)) = CPc.nilish (.after w) := by
  cases w <;> try rfl
  next p => cases p <;> rfl
end

theorem step_nilish {cfg : Cfg} {s s' : State} {l : Label} (hw : WF cfg s)
    (hn : ∀ i, (getC s i).pc.nilish = false) (h : Step cfg s l s') : ∀ i, (getC s' i).pc.nilish = false := by
  cases h
  case bad h _ => exact (h.elim hw).elim
  all_goals try (with_reducible exact hn)
  -- the caller that moves: where it goes is no more nil-ish than where it was
  case ret i w hpc _ | cancel1 i _ w hpc _ | lockCancel i _ w _ hpc | cancel2 i _ _ w hpc _ _ _ _
      | cancel2Skip i _ w hpc _ _ =>
    exact forall_getC_setC (P := fun c => c.pc.nilish = false) hn i (by simpa [hpc] using hn i)
  all_goals exact forall_getC_setC (P := fun c => c.pc.nilish = false) hn _ (by first | exact hn _ | rfl)

structure AllInv (cfg : Cfg) (s : State) : Prop where
  m : MutexInv s
  w : WF cfg s
  c : CInv cfg s
  h : HInv cfg s
  n : ∀ i, (getC s i).pc.nilish = false

theorem run_all (cfg : Cfg) (hf : cfg.cancelChecksOwner = true) (ls : List Label) :
    ∀ s0 s, AllInv cfg s0 → run cfg s0 ls = some s → AllInv cfg s := by
  induction ls with
  | nil => intro s0 s hi h; cases h; exact hi
  | cons l ls ih =>
    intro s0 s hi h
    simp only [run] at h
    split at h
    · next s1 h1 =>
      have h1 := step_sound h1
      exact ih s1 s ⟨step_mutex hi.w hi.m h1, step_wf hf hi.m hi.w h1, step_cinv hi.w hi.c h1,
        step_hinv hi.w hi.h h1, step_nilish hi.w hi.n h1⟩ h
    · cases h

theorem reach_all (cfg : Cfg) (hf : cfg.cancelChecksOwner = true) (s : State) (h : Reachable cfg s) :
    AllInv cfg s := by
  obtain ⟨ls, h⟩ := h
  exact run_all cfg hf ls init s ⟨init_mutex, init_wf cfg, init_cinv cfg, init_hinv cfg, fun _ => rfl⟩ h

theorem reach_inv (cfg : Cfg) (hf : cfg.cancelChecksOwner = true) (s : State) (h : Reachable cfg s) :
    MutexInv s ∧ WF cfg s :=
  ⟨(reach_all cfg hf s h).m, (reach_all cfg hf s h).w⟩

end Dhcp.Client.LTS
