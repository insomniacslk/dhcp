import DhcpProofs.Lemmas.V4Val
import DhcpProofs.Lemmas.V4Opts
/-
  C17 helper lemmas: relay agent information (RFC 3046): the shared
  option loop with `checkEnd = false` computes the tuple list of the options-field
  grammar (`Val4.subOptionsPadEnd`: 0 pads, 255 ends; RFC 3046's `Val4.subOptions`
  has neither, and agrees with it where no code octet is 0 or 255), folded
  into a map by concatenating repeated codes.
-/
namespace Dhcp.V4
open Dhcp.Spec

theorem optsLoop'_subOptionsPadEnd (d : Bytes) (o : Opts) :
    (optsLoop' ⟨d, false⟩ o).map (·.1) = (Val4.subOptionsPadEnd d).map (appAll o) := by
  fun_induction Val4.subOptionsPadEnd d generalizing o with
  | case1 => simp [optsLoop'_nil, appAll]
  | case2 rest ih => rw [optsLoop'_cons, if_pos rfl]; exact ih o
  | case3 rest => simp [optsLoop'_cons, appAll]
  | case4 c h0 h255 => simp [optsLoop'_cons, h0, h255]
  | case5 c h0 h255 n r hl => simp [optsLoop'_cons, h0, h255, Nat.not_le.mpr hl]
  | case6 c h0 h255 n r hl ih =>
    simp only [optsLoop'_cons, h0, h255, if_false, Nat.not_lt.mp hl, if_true, ih]
    cases Val4.subOptionsPadEnd (r.drop n.toNat) <;> simp [appAll]

theorem appAll_empty (ts : List (UInt8 × Bytes)) :
    appAll Opts.empty ts = ⟨Val4.subOptionValue ts⟩ := by
  apply Opts.ext'
  intro c
  rw [appAll_f]
  simp only [Val4.subOptionValue, Opts.empty]
  cases ts.filter (fun t => decide (t.1 = c)) <;> simp

theorem relayFromBytes_eq (v : Bytes) : relayFromBytes v = (Val4.relayPadEnd v).map Opts.mk := by
  rw [relayFromBytes, optsFromBytes_noCheck, optsLoop'_subOptionsPadEnd,
    Val4.relayPadEnd, Option.map_map]
  exact congrArg (Option.map · _) (funext appAll_empty)

theorem subOptionsPadEnd_eq_strict (d : Bytes) (h : Val4.noPadEndCodes d = true) :
    Val4.subOptionsPadEnd d = Val4.subOptions d := by
  fun_induction Val4.noPadEndCodes d with
  | case1 => simp [Val4.subOptionsPadEnd, Val4.subOptions]
  | case2 c =>
    simp only [Bool.and_eq_true, bne_iff_ne, ne_eq] at h
    rw [Val4.subOptionsPadEnd.eq_def]; simp [h.1, h.2, Val4.subOptions]
  | case3 c n r ih =>
    simp only [Bool.and_eq_true, bne_iff_ne, ne_eq] at h
    rw [Val4.subOptionsPadEnd.eq_def, Val4.subOptions]
    simp only [h.1, if_false]
    split
    · rfl
    · next hl => rw [ih hl (by simpa [hl] using h.2)]

theorem relayPadEnd_eq_strict (v : Bytes) (h : Val4.noPadEndCodes v = true) :
    Val4.relayPadEnd v = Val4.relay v := by
  unfold Val4.relayPadEnd Val4.relay
  rw [subOptionsPadEnd_eq_strict v h]

end Dhcp.V4
