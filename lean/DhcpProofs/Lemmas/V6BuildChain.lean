import DhcpProofs.Lemmas.V6Build
/- Relay chains (`Chain`, `Broken` of Spec/Relay6) and what the loops that follow the
relay-message options compute on them (C16, C03): `DecapsulateRelayIndex` at every index,
`GetInnerMessage`, the first loop of `NewRelayReplFromRelayForw`. -/
namespace Dhcp.Spec
open Dhcp.V6

theorem Chain.isRelay {c inner : Msg6} {lv : List RLevel} (h : Chain c lv inner) : c.isRelay = true := by
  cases h <;> rfl

theorem Chain.inner_not_relay {c inner : Msg6} {lv : List RLevel} (h : Chain c lv inner) :
    inner.isRelay = false := by
  induction h with
  | last _ h2 => exact h2
  | cons _ _ ih => exact ih

theorem Chain.length_le_depth {c inner : Msg6} {lv : List RLevel} (h : Chain c lv inner) :
    lv.length ≤ msgDepth c := by
  induction h with
  | last h1 _ => rw [msgDepth_relay]; simp
  | @cons t hc l p os r lvls inner h1 _ ih =>
    have := msgDepth_of_relayMessageOf h1
    rw [msgDepth_relay]; simp; omega

theorem Chain.unique {c i1 i2 : Msg6} {l1 l2 : List RLevel} (h1 : Chain c l1 i1) (h2 : Chain c l2 i2) :
    l1 = l2 ∧ i1 = i2 := by
  induction h1 generalizing l2 i2 with
  | last ha hb =>
    cases h2 with
    | last hc _ => rw [ha] at hc; cases hc; exact ⟨rfl, rfl⟩
    | cons hc hd => rw [ha] at hc; cases hc; rw [hd.isRelay] at hb; cases hb
  | cons ha hb ih =>
    cases h2 with
    | last hc hd => rw [ha] at hc; cases hc; rw [hb.isRelay] at hd; cases hd
    | cons hc hd =>
      rw [ha] at hc; cases hc
      obtain ⟨e1, e2⟩ := ih hd
      exact ⟨by rw [e1], e2⟩

theorem Broken.isRelay {c : Msg6} (h : Broken c) : c.isRelay = true := by
  cases h <;> rfl

theorem decapN_msg {m : Msg6} (hm : m.isRelay = false) : ∀ n, decapN n m = .ok m := by
  intro n
  obtain ⟨t, x, os, rfl⟩ := not_isRelay_iff.mp hm
  induction n with
  | zero => rfl
  | succ n ih => simp [decapN, decapsulateRelay, Res.bind, ih]

theorem chain_or_broken : ∀ c : Msg6, c.isRelay = true → (∃ lv inner, Chain c lv inner) ∨ Broken c
  | .relay t h l p os, _ => by
    cases hm : relayMessageOf os with
    | none => exact .inr (.here hm)
    | some r =>
      cases hr : r.isRelay with
      | false => exact .inl ⟨_, r, .last hm hr⟩
      | true =>
        rcases chain_or_broken r hr with ⟨lv, inner, hch⟩ | hb
        · exact .inl ⟨_, inner, .cons hm hch⟩
        · exact .inr (.deeper hm hb)
termination_by c => msgDepth c
decreasing_by rw [msgDepth_relay]; exact Nat.lt_succ_of_le (msgDepth_of_relayMessageOf hm)

/-- what the first loop of `NewRelayReplFromRelayForw` records for a level -/
def toLevel (lv : RLevel) : Level :=
  ⟨lv.link, lv.peer, getOne ocInterfaceID lv.opts, getOne ocRemoteID lv.opts⟩

def collectOf (fuel : Nat) : Msg6 → Res (List Level)
  | .relay _ _ l p os => collectLevels fuel l p os
  | .msg .. => .err

theorem collectOf_succ {t h : UInt8} {l p : IP} {os : List Opt6} {r : Msg6} (h1 : relayMessageOf os = some r)
    (f : Nat) :
    collectOf (f + 1) (.relay t h l p os) =
      if r.isRelay then (collectOf f r).map (toLevel ⟨t, h, l, p, os⟩ :: ·) else .ok [toLevel ⟨t, h, l, p, os⟩] := by
  cases r <;> simp [collectOf, collectLevels, h1, toLevel, Msg6.isRelay]

theorem collectOf_chain {c inner : Msg6} {fl : List RLevel} (h : Chain c fl inner) :
    ∀ fuel, fl.length ≤ fuel → collectOf fuel c = .ok (fl.map toLevel) := by
  induction h with
  | last h1 h2 =>
    intro fuel hf
    cases fuel with
    | zero => cases hf
    | succ f => rw [collectOf_succ h1, h2]; rfl
  | cons h1 hch ih =>
    intro fuel hf
    cases fuel with
    | zero => cases hf
    | succ f => rw [collectOf_succ h1, hch.isRelay, ih f (Nat.le_of_succ_le_succ hf)]; rfl

theorem collectOf_broken {c : Msg6} (h : Broken c) : ∀ fuel, collectOf fuel c = .err := by
  induction h with
  | here h1 =>
    intro fuel
    cases fuel with
    | zero => rfl
    | succ f => simp [collectOf, collectLevels, h1]
  | deeper h1 hb ih =>
    intro fuel
    cases fuel with
    | zero => rfl
    | succ f => rw [collectOf_succ h1, hb.isRelay, ih f]; rfl

end Dhcp.Spec

namespace Dhcp.V6
open Dhcp.Spec

theorem decapsulateRelayIndex_nat {c : Msg6} (hr : c.isRelay = true) (k : Nat) :
    decapsulateRelayIndex c (k : Int) = decapN (k + 1) c := by
  have h1 : ¬ ((k : Int) < -1) := by omega
  have h2 : ¬ ((k : Int) = -1) := by omega
  simp [decapsulateRelayIndex, hr, h1, h2]

theorem decapsulateRelayIndex_neg_one {c : Msg6} (hr : c.isRelay = true) :
    decapsulateRelayIndex c (-1) = lastRelay (msgDepth c + 1) c := by
  simp [decapsulateRelayIndex, hr]

theorem decapsulateRelayIndex_lt {c : Msg6} (hr : c.isRelay = true) {i : Int} (hi : i < -1) :
    decapsulateRelayIndex c i = .err := by
  simp [decapsulateRelayIndex, hr, hi]

theorem innerLoop_eq : ∀ (f : Nat) (p : Msg6), innerLoop f p = (lastRelay f p).bind decapsulateRelay
  | 0, _ => rfl
  | f + 1, p => by
    unfold innerLoop lastRelay
    cases e : decapsulateRelay p with
    | ok d =>
      by_cases hr : d.isRelay = true
      · simp only [hr, if_true]; exact innerLoop_eq f d
      · simp only [hr]; exact e.symm
    | err => rfl
    | panic => rfl

theorem decapN_chain {c inner : Msg6} {lvls : List RLevel} (h : Chain c lvls inner) : ∀ n,
    (n < lvls.length → ∃ c', decapN n c = .ok c' ∧ Chain c' (lvls.drop n) inner) ∧
    (lvls.length ≤ n → decapN n c = .ok inner) := by
  induction h with
  | @last t hc l p os inner h1 h2 =>
    intro n
    cases n with
    | zero => exact ⟨fun _ => ⟨_, rfl, .last h1 h2⟩, fun hn => by simp at hn⟩
    | succ n =>
      refine ⟨fun hn => by simp at hn, fun _ => ?_⟩
      simp only [decapN, decapsulateRelay, h1, Res.bind]
      exact decapN_msg h2 n
  | @cons t hc l p os r lvls inner h1 hch ih =>
    intro n
    cases n with
    | zero => exact ⟨fun _ => ⟨_, rfl, .cons h1 hch⟩, fun hn => by simp at hn⟩
    | succ n =>
      simp only [decapN, decapsulateRelay, h1, Res.bind, List.length_cons, List.drop_succ_cons]
      exact ⟨fun hn => (ih n).1 (by omega), fun hn => (ih n).2 (by omega)⟩

theorem lastRelay_chain {c inner : Msg6} {lvls : List RLevel} (h : Chain c lvls inner) :
    ∃ c' lv, Chain c' [lv] inner ∧ lvls.getLast? = some lv ∧
      ∀ fuel, lvls.length ≤ fuel → lastRelay fuel c = .ok c' := by
  induction h with
  | @last t hc l p os inner h1 h2 =>
    refine ⟨_, _, .last h1 h2, rfl, fun fuel hf => ?_⟩
    cases fuel with
    | zero => cases hf
    | succ f => simp [lastRelay, decapsulateRelay, h1, h2]
  | @cons t hc l p os r lvls inner h1 hch ih =>
    obtain ⟨c', lv, e2, e3, e1⟩ := ih
    refine ⟨c', lv, e2, ?_, fun fuel hf => ?_⟩
    · cases lvls with
      | nil => cases hch
      | cons b l => rw [List.getLast?_cons_cons]; exact e3
    · cases fuel with
      | zero => cases hf
      | succ f =>
        simp only [lastRelay, decapsulateRelay, h1, hch.isRelay, if_true]
        exact e1 f (Nat.le_of_succ_le_succ hf)

theorem decapN_broken {c : Msg6} (h : Broken c) : ∀ n,
    decapN n c = .err ∨ ∃ c', decapN n c = .ok c' ∧ Broken c' ∧ n < msgDepth c := by
  induction h with
  | @here t hc l p os h1 =>
    intro n
    cases n with
    | zero => exact .inr ⟨_, rfl, .here h1, by rw [msgDepth_relay]; omega⟩
    | succ n => exact .inl (by simp [decapN, decapsulateRelay, h1, Res.bind])
  | @deeper t hc l p os r h1 hb ih =>
    intro n
    have hd := msgDepth_of_relayMessageOf h1
    rw [msgDepth_relay]
    cases n with
    | zero => exact .inr ⟨_, rfl, .deeper h1 hb, by omega⟩
    | succ n =>
      simp only [decapN, decapsulateRelay, h1, Res.bind]
      exact (ih n).imp_right fun ⟨c', e, hb', hn⟩ => ⟨c', e, hb', by omega⟩

theorem lastRelay_broken {c : Msg6} (h : Broken c) : ∀ fuel, lastRelay fuel c = .err := by
  induction h with
  | here h1 =>
    intro fuel
    cases fuel with
    | zero => rfl
    | succ f => simp [lastRelay, decapsulateRelay, h1]
  | @deeper t hc l p os r h1 hb ih =>
    intro fuel
    cases fuel with
    | zero => rfl
    | succ f =>
      simp only [lastRelay, decapsulateRelay, h1, hb.isRelay, if_true]
      exact ih f

theorem innerLoop_chain {c inner : Msg6} {lv : List RLevel} (h : Chain c lv inner) :
    ∀ fuel, lv.length ≤ fuel → innerLoop fuel c = .ok inner := by
  intro fuel hf
  obtain ⟨c', _, hc', _, e⟩ := lastRelay_chain h
  rw [innerLoop_eq, e fuel hf]
  cases hc' with
  | last h1 _ => simp [Res.bind, decapsulateRelay, h1]
  | cons _ hch => cases hch

theorem getInnerMessage_chain {c inner : Msg6} {lv : List RLevel} (h : Chain c lv inner) :
    getInnerMessage c = .ok inner := by
  obtain ⟨t, hc, l, p, os, rfl⟩ := isRelay_iff.mp h.isRelay
  exact innerLoop_chain h _ (Nat.le_succ_of_le h.length_le_depth)

theorem innerLoop_broken {c : Msg6} (h : Broken c) (fuel : Nat) : innerLoop fuel c = .err := by
  rw [innerLoop_eq, lastRelay_broken h]; rfl

theorem getInnerMessage_broken {c : Msg6} (h : Broken c) : getInnerMessage c = .err := by
  obtain ⟨t, hc, l, p, os, rfl⟩ := isRelay_iff.mp h.isRelay
  exact innerLoop_broken h _

/-! ### consequences: a loop along the relay-message options is determined by the
chain, so its fuel is irrelevant and it cannot panic -/

theorem getInnerMessage_ne_panic (m : Msg6) : getInnerMessage m ≠ .panic := by
  cases hm : m.isRelay with
  | false => obtain ⟨t, x, os, rfl⟩ := not_isRelay_iff.mp hm; nofun
  | true =>
    rcases chain_or_broken m hm with ⟨_, _, hc⟩ | hb
    · rw [getInnerMessage_chain hc]; nofun
    · rw [getInnerMessage_broken hb]; nofun

theorem collectLevels_fuel (f1 : Nat) : ∀ (f2 : Nat) (l p : IP) (os : List Opt6),
    optsDepth os < f1 → optsDepth os < f2 → collectLevels f1 l p os = collectLevels f2 l p os := by
  intro f2 l p os h1 h2
  show collectOf f1 (.relay relayForward 0 l p os) = collectOf f2 (.relay relayForward 0 l p os)
  rcases chain_or_broken (.relay relayForward 0 l p os) rfl with ⟨_, _, h⟩ | h
  · have hd := h.length_le_depth
    rw [msgDepth_relay] at hd
    rw [collectOf_chain h f1 (by omega), collectOf_chain h f2 (by omega)]
  · rw [collectOf_broken h, collectOf_broken h]

theorem lastRelay_fuel (f1 f2 : Nat) (p : Msg6) (hp : p.isRelay = true) (h1 : msgDepth p ≤ f1)
    (h2 : msgDepth p ≤ f2) : lastRelay f1 p = lastRelay f2 p := by
  rcases chain_or_broken p hp with ⟨_, _, h⟩ | h
  · obtain ⟨_, _, _, _, e⟩ := lastRelay_chain h
    rw [e f1 (Nat.le_trans h.length_le_depth h1), e f2 (Nat.le_trans h.length_le_depth h2)]
  · rw [lastRelay_broken h, lastRelay_broken h]

theorem innerLoop_fuel (f1 f2 : Nat) (p : Msg6) (hp : p.isRelay = true) (h1 : msgDepth p ≤ f1)
    (h2 : msgDepth p ≤ f2) : innerLoop f1 p = innerLoop f2 p := by
  rw [innerLoop_eq, innerLoop_eq, lastRelay_fuel f1 f2 p hp h1 h2]

end Dhcp.V6
