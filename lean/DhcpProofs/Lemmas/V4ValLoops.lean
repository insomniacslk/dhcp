import DhcpProofs.Lemmas.Basic
import DhcpProofs.Lemmas.V4Val
/-
  C17 helper lemmas: the list-valued types, each parsed by a
  `for buf.Has(k)` loop and a final `FinError`.  For every loop one equation:
  with enough fuel, loop and `FinError` together compute the spec's tiling of
  the value.  Where a short read sets the sticky error and the loop goes on
  (`Strings`, `VIVCIdentifiers`) the equation is stated for either value of the
  error flag — nothing is accepted once it is set —, so that the short read is
  the induction hypothesis at `err = true`.
-/
namespace Dhcp.V4
open List
open Dhcp.Spec

/-- how every list-valued `FromBytes` ends once its loop has not returned early: the items
collected, unless `FinError` -/
def finish {α} : Option (List α × Lexer) → Option (List α)
  | none => none
  | some (xs, l) => if l.finError then none else some xs

theorem finish_cons {α} (x : α) (r : Option (List α × Lexer)) :
    finish (r.map fun p => (x :: p.1, p.2)) = (finish r).map (x :: ·) := by
  match r with
  | none => rfl
  | some (xs, l) => unfold finish; simp only [Option.map_some]; split <;> rfl

theorem ipsLoop_finish (fuel : Nat) : ∀ d : Bytes, d.length < fuel →
    finish (some (ipsLoop fuel ⟨d, false⟩)) = (Val4.addrs d).map (·.map some) := by
  induction fuel with
  | zero => intro d h; omega
  | succ f ih =>
    intro d hd
    match d with
    | [] | [_] | [_, _] | [_, _, _] => simp [ipsLoop, Lexer.has, finish, Lexer.finError, Val4.addrs]
    | a :: b :: c :: e :: r =>
      have : some (ipsLoop (f + 1) ⟨a :: b :: c :: e :: r, false⟩) =
          (some (ipsLoop f ⟨r, false⟩)).map fun p => (some [a, b, c, e] :: p.1, p.2) := by
        simp [ipsLoop, Lexer.has, Lexer.copyN, Lexer.consume]
      rw [this, finish_cons, ih r (by simp at hd; omega), Val4.addrs]
      cases Val4.addrs r <;> rfl

theorem ipsFromBytes_eq (v : Bytes) : ipsFromBytes v = (Val4.ips v).map (·.map some) := by
  match v with
  | [] => rfl
  | a :: r =>
    refine Eq.trans ?_ (ipsLoop_finish _ (a :: r) (Nat.lt_succ_self _))
    unfold ipsFromBytes Lexer.new
    simp only [Lexer.len, length_cons, Nat.add_one_ne_zero, if_false]
    cases ipsLoop _ _; rfl

theorem archsLoop_finish (fuel : Nat) : ∀ d : Bytes, d.length < fuel →
    finish (some (archsLoop fuel ⟨d, false⟩)) = Val4.pairs d := by
  induction fuel with
  | zero => intro d h; omega
  | succ f ih =>
    intro d hd
    match d with
    | [] | [_] => simp [archsLoop, Lexer.has, finish, Lexer.finError, Val4.pairs]
    | a :: b :: r =>
      have : some (archsLoop (f + 1) ⟨a :: b :: r, false⟩) =
          (some (archsLoop f ⟨r, false⟩)).map fun p => ((a.toNat * 256 + b.toNat) :: p.1, p.2) := by
        simp [archsLoop, Lexer.has, Lexer.read16, Lexer.consume, beNat]
      rw [this, finish_cons, ih r (by simp at hd; omega), Val4.pairs]

theorem archsFromBytes_eq (v : Bytes) : archsFromBytes v = Val4.archs v := by
  match v with
  | [] => rfl
  | a :: r =>
    refine Eq.trans ?_ (archsLoop_finish _ (a :: r) (Nat.lt_succ_self _))
    unfold archsFromBytes Lexer.new
    simp only [Lexer.len, length_cons, Nat.add_one_ne_zero, if_false]
    cases archsLoop _ _; rfl

theorem codesLoop_finish (fuel : Nat) : ∀ d : Bytes, d.length < fuel →
    finish (some (codesLoop fuel ⟨d, false⟩)) = some d := by
  induction fuel with
  | zero => intro d h; omega
  | succ f ih =>
    intro d hd
    match d with
    | [] => rfl
    | a :: r =>
      have : some (codesLoop (f + 1) ⟨a :: r, false⟩) =
          (some (codesLoop f ⟨r, false⟩)).map fun p => (a :: p.1, p.2) := by
        simp [codesLoop, Lexer.has]
      rw [this, finish_cons, ih r (by simp at hd; omega)]
      rfl

theorem codesFromBytes_eq (v : Bytes) : codesFromBytes v = Val4.codes v :=
  codesLoop_finish _ v (Nat.lt_succ_self _)

theorem stringsLoop_cons (f : Nat) (n : UInt8) (r : Bytes) (e : Bool) (hn : n ≠ 0) :
    stringsLoop (f + 1) ⟨n :: r, e⟩ =
      if n.toNat ≤ r.length then
        (stringsLoop f ⟨r.drop n.toNat, e⟩).map fun p => (r.take n.toNat :: p.1, p.2)
      else (stringsLoop f ⟨r, true⟩).map fun p => ([] :: p.1, p.2) := by
  simp only [stringsLoop, Lexer.has, Lexer.copyN, Lexer.consume, Lexer.read8_cons, hn]
  by_cases hl : n.toNat ≤ r.length <;> simp [hl] <;> cases stringsLoop f _ <;> rfl

theorem stringsLoop_finish (fuel : Nat) : ∀ (d : Bytes) (e : Bool), d.length < fuel →
    finish (stringsLoop fuel ⟨d, e⟩) = if e then none else Val4.classes d := by
  induction fuel with
  | zero => intro d e h; omega
  | succ f ih =>
    intro d e hd
    match d with
    | [] => cases e <;> simp [stringsLoop, Lexer.has, finish, Lexer.finError, Val4.classes]
    | n :: r =>
      rw [Val4.classes]
      by_cases hn : n = 0
      · simp [stringsLoop, Lexer.has, hn, finish]
      · rw [stringsLoop_cons f n r e hn]
        by_cases hl : n.toNat ≤ r.length
        · rw [if_pos hl, finish_cons, ih _ e (by simp at hd ⊢; omega)]
          cases e <;> simp [hn, Nat.not_lt.mpr hl]
        · rw [if_neg hl, finish_cons, ih _ true (by simp at hd ⊢; omega)]
          simp [hn, Nat.lt_of_not_le hl]

theorem stringsFromBytes_eq (v : Bytes) : stringsFromBytes v = Val4.userClasses v := by
  match v with
  | [] => rfl
  | a :: r =>
    refine Eq.trans ?_ (stringsLoop_finish _ (a :: r) false (Nat.lt_succ_self _))
    simp only [stringsFromBytes, Lexer.new, Lexer.len, length_cons, Nat.add_one_ne_zero, if_false]
    cases stringsLoop _ _ <;> rfl

def ofSpecRoute (r : Val4.Route) : Route := ⟨r.dest, r.width, some r.router⟩

theorem routeUnmarshal_cons (w : UInt8) (r : Bytes) :
    routeUnmarshal ⟨w :: r, false⟩ =
      (if w.toNat > 32 ∨ r.length < (w.toNat + 7) / 8 + 4 then none
       else some (⟨r.take ((w.toNat + 7) / 8) ++ List.replicate (4 - (w.toNat + 7) / 8) 0, w.toNat,
                    some ((r.drop ((w.toNat + 7) / 8)).take 4)⟩,
                  ⟨r.drop ((w.toNat + 7) / 8 + 4), false⟩)) := by
  unfold routeUnmarshal
  simp only [Lexer.read8_cons, Lexer.readBytes, Lexer.copyN, Lexer.consume, Lexer.error]
  generalize (w.toNat + 7) / 8 = k
  by_cases hw : w.toNat > 32
  · simp [hw]
  by_cases hk : k ≤ r.length
  · by_cases h4 : 4 ≤ r.length - k
    · simp [hw, hk, h4, show ¬ r.length < k + 4 by omega, zeros, List.drop_drop]
    · simp [hw, hk, h4, show r.length < k + 4 by omega]
  -- the destination is short: it stays zero, and the sticky error fails the route whatever follows
  · simp [hw, hk, show r.length < k + 4 by omega]
    split <;> rfl

theorem routesLoop_cons (f : Nat) (w : UInt8) (r : Bytes) :
    routesLoop (f + 1) ⟨w :: r, false⟩ =
      if w.toNat > 32 ∨ r.length < (w.toNat + 7) / 8 + 4 then none
      else (routesLoop f ⟨r.drop ((w.toNat + 7) / 8 + 4), false⟩).map fun p =>
        (⟨r.take ((w.toNat + 7) / 8) ++ List.replicate (4 - (w.toNat + 7) / 8) 0, w.toNat,
          some ((r.drop ((w.toNat + 7) / 8)).take 4)⟩ :: p.1, p.2) := by
  simp only [routesLoop, Lexer.has, List.length_cons, Nat.le_add_left, decide_true, if_true,
    routeUnmarshal_cons]
  by_cases hc : w.toNat > 32 ∨ r.length < (w.toNat + 7) / 8 + 4
  · simp [hc]
  · simp only [hc, if_false]
    cases routesLoop f _ <;> rfl

theorem routesLoop_finish (fuel : Nat) : ∀ d : Bytes, d.length < fuel →
    finish (routesLoop fuel ⟨d, false⟩) = (Val4.routeList d).map (·.map ofSpecRoute) := by
  induction fuel with
  | zero => intro d h; omega
  | succ f ih =>
    intro d hd
    match d with
    | [] => simp [routesLoop, Lexer.has, finish, Lexer.finError, Val4.routeList]
    | w :: r =>
      rw [routesLoop_cons, Val4.routeList]
      split
      · rfl
      · rw [finish_cons, ih _ (by simp at hd ⊢; omega)]
        cases Val4.routeList _ <;> rfl

theorem routesFromBytes_eq (v : Bytes) :
    routesFromBytes v = ((Val4.routeList v).map (·.map ofSpecRoute)).map goSlice := by
  rw [← routesLoop_finish _ v (Nat.lt_succ_self _)]
  unfold routesFromBytes finish Lexer.new
  cases routesLoop (v.length + 1) ⟨v, false⟩ with
  | none => rfl
  | some p => dsimp only; split <;> rfl

theorem routeList_eq_nil {v : Bytes} (h : Val4.routeList v = some []) : v = [] := by
  match v with
  | [] => rfl
  | w :: r => rw [Val4.routeList] at h; split at h <;> simp at h

def ofSpecVIVC (p : Nat × Bytes) : VIVCId := ⟨p.1, p.2⟩

theorem vivcLoop_cons (f : Nat) (a b c d n : UInt8) (r : Bytes) (e : Bool) :
    some (vivcLoop (f + 1) ⟨a :: b :: c :: d :: n :: r, e⟩) =
      if n.toNat ≤ r.length then
        (some (vivcLoop f ⟨r.drop n.toNat, e⟩)).map fun p =>
          (⟨((a.toNat * 256 + b.toNat) * 256 + c.toNat) * 256 + d.toNat, r.take n.toNat⟩ :: p.1, p.2)
      else (some (vivcLoop f ⟨r, true⟩)).map fun p =>
          (⟨((a.toNat * 256 + b.toNat) * 256 + c.toNat) * 256 + d.toNat, []⟩ :: p.1, p.2) := by
  by_cases hl : n.toNat ≤ r.length <;>
    simp [vivcLoop, Lexer.has, Lexer.read32, Lexer.read8, Lexer.copyN, Lexer.consume, beNat, hl]

theorem vivcLoop_finish (fuel : Nat) : ∀ (d : Bytes) (e : Bool), d.length < fuel →
    finish (some (vivcLoop fuel ⟨d, e⟩)) =
      if e then none else (Val4.vendorClasses d).map (·.map ofSpecVIVC) := by
  induction fuel with
  | zero => intro d e h; omega
  | succ f ih =>
    intro d e hd
    match d with
    | [] | [_] | [_, _] | [_, _, _] | [_, _, _, _] =>
      cases e <;> simp [vivcLoop, Lexer.has, Val4.vendorClasses, finish, Lexer.finError]
    | a :: b :: c :: x :: n :: r =>
      rw [vivcLoop_cons, Val4.vendorClasses]
      by_cases hl : n.toNat ≤ r.length
      · rw [if_pos hl, finish_cons, ih _ e (by simp at hd ⊢; omega), if_neg (Nat.not_lt.mpr hl)]
        cases e <;> cases Val4.vendorClasses (r.drop n.toNat) <;> rfl
      · rw [if_neg hl, finish_cons, ih _ true (by simp at hd ⊢; omega)]
        simp [Nat.lt_of_not_le hl]

theorem vivcFromBytes_eq (v : Bytes) :
    vivcFromBytes v = ((Val4.vendorClasses v).map (·.map ofSpecVIVC)).map goSlice := by
  rw [← (vivcLoop_finish _ v false (Nat.lt_succ_self _)).trans (if_neg Bool.false_ne_true)]
  unfold vivcFromBytes finish Lexer.new
  cases vivcLoop (v.length + 1) ⟨v, false⟩
  dsimp only
  split <;> rfl

theorem vendorClasses_eq_nil {v : Bytes} (h : Val4.vendorClasses v = some []) : v = [] := by
  unfold Val4.vendorClasses at h
  split at h
  · rfl
  · split at h <;> simp at h
  · cases h

end Dhcp.V4
