import DhcpProofs.Lemmas.V4Opts
/- `Options.Marshal` as a list of code/length/value instances: which codes, in
which order, how a value is cut into instances, and what reading them back
gives. -/
namespace Dhcp.V4
open List Dhcp.Spec

theorem allCodes_sorted : Opts.allCodes.Pairwise (· < ·) := by
  unfold Opts.allCodes
  refine List.pairwise_map.mpr (List.Pairwise.imp_of_mem ?_ (List.pairwise_lt_range (n := 256)))
  intro a b ha hb hlt
  show UInt8.ofNat a < UInt8.ofNat b
  rw [UInt8.lt_iff_toNat_lt, UInt8.toNat_ofNat_lt (List.mem_range.mp ha),
    UInt8.toNat_ofNat_lt (List.mem_range.mp hb)]
  exact hlt

theorem allCodes_nodup : Opts.allCodes.Nodup := allCodes_sorted.imp UInt8.ne_of_lt

theorem mem_allCodes (k : UInt8) : k ∈ Opts.allCodes :=
  List.mem_map.mpr ⟨k.toNat, List.mem_range.mpr k.toNat_lt, by simp⟩

theorem mem_keys (o : Opts) (k : UInt8) : k ∈ o.keys ↔ (o.f k).isSome = true := by
  simp [Opts.keys, mem_allCodes]

theorem keys_sorted (o : Opts) : o.keys.Pairwise (· < ·) := allCodes_sorted.sublist filter_sublist

/-- the codes `Marshal` actually writes -/
def marshalCodes (o : Opts) : List UInt8 :=
  (sortedKeys o).filter (fun c => c != optEnd && c != optPad)

theorem marshalOpts_eq (o : Opts) :
    marshalOpts o = (marshalCodes o).flatMap (fun c => chunks c ((o.f c).getD [])) := rfl

theorem marshalCodes_eq (o : Opts) :
    marshalCodes o =
      o.keys.filter (fun k => k ≠ 0 ∧ k ≠ 82 ∧ k ≠ 255) ++ (if o.has 82 then [82] else []) := by
  have h82 : ∀ b : Bool, (if b = true then [optAgentInfo] else []).filter (fun c => c != optEnd && c != optPad)
      = if b = true then [82] else [] := by decide
  have h255 : ∀ b : Bool, (if b = true then [optEnd] else []).filter (fun c => c != optEnd && c != optPad)
      = [] := by decide
  rw [marshalCodes, sortedKeys, List.filter_append, List.filter_append, h82, h255, List.append_nil,
    List.filter_filter]
  congr 1
  apply List.filter_congr
  intro k _
  rw [Bool.eq_iff_iff]
  simp only [optEnd, optPad, optAgentInfo, bne_iff_ne, ne_eq, Bool.and_eq_true, decide_eq_true_eq]
  exact ⟨fun h => ⟨h.1.2, h.2⟩, fun h => ⟨⟨h.2.2, h.1⟩, h.2⟩⟩

theorem mem_marshalCodes (o : Opts) (k : UInt8) :
    k ∈ marshalCodes o ↔ (o.f k).isSome ∧ k ≠ 0 ∧ k ≠ 255 := by
  rw [marshalCodes_eq]
  by_cases h82 : k = 82
  · subst h82; by_cases h : (o.f 82).isSome = true <;> simp [Opts.has, h]
  · by_cases h : o.has 82 = true <;> simp [mem_keys, h, h82]

theorem marshalCodes_shape (o : Opts) :
    ∃ l : List UInt8, marshalCodes o = l ++ (if o.has 82 then [82] else []) ∧
      l.Pairwise (· < ·) ∧ 82 ∉ l :=
  ⟨_, marshalCodes_eq o, (keys_sorted o).sublist filter_sublist, by simp⟩

theorem marshalCodes_nodup (o : Opts) : (marshalCodes o).Nodup := by
  obtain ⟨l, hl, hs, h82⟩ := marshalCodes_shape o
  rw [hl]
  refine List.nodup_append.mpr ⟨hs.imp UInt8.ne_of_lt, by split <;> simp, ?_⟩
  intro a ha b hb
  split at hb
  · rw [List.mem_singleton.mp hb]; intro h; exact h82 (h ▸ ha)
  · simp at hb

/-- the instances `chunksAux` writes -/
def chunkInstsAux (c : UInt8) : Nat → Bytes → List (UInt8 × Bytes)
  | 0, _ => []
  | fuel + 1, d =>
    if d.length = 0 then []
    else
      let n := if d.length > chunkMax then chunkMax else d.length
      (c, d.take n) :: chunkInstsAux c fuel (d.drop n)

/-- the instances `Marshal` writes for one option -/
def chunkInsts (c : UInt8) (v : Bytes) : List (UInt8 × Bytes) :=
  if v.length = 0 then [(c, [])] else chunkInstsAux c v.length v

/-- all instances of the options area, in wire order -/
def instsOf (o : Opts) : List (UInt8 × Bytes) :=
  (marshalCodes o).flatMap (fun c => chunkInsts c ((o.f c).getD []))

theorem chunksAux_eq_tlvs (c : UInt8) (fuel : Nat) (v : Bytes) :
    chunksAux c fuel v = (chunkInstsAux c fuel v).flatMap tlv := by
  fun_induction chunkInstsAux c fuel v with
  | case1 => rfl
  | case2 fuel d hz => simp [chunksAux, hz]
  | case3 fuel d hz n ih =>
    have hn : (d.take n).length = n := by simp [n, chunkMax]; split <;> omega
    simp [chunksAux, hz, tlv, hn, ← ih, n]

theorem chunks_eq_tlvs (c : UInt8) (v : Bytes) : chunks c v = (chunkInsts c v).flatMap tlv := by
  unfold chunks chunkInsts
  split
  · rfl
  · exact chunksAux_eq_tlvs c _ _

theorem chunkInstsAux_code (c : UInt8) (fuel : Nat) (v : Bytes) :
    ∀ i ∈ chunkInstsAux c fuel v, i.1 = c ∧ i.2.length ≤ 255 := by
  fun_induction chunkInstsAux c fuel v with
  | case1 => simp
  | case2 => simp
  | case3 fuel d hz n ih =>
    intro i hi
    rcases List.mem_cons.mp hi with rfl | hi
    · exact ⟨rfl, by simp [n, chunkMax]; split <;> omega⟩
    · exact ih i hi

theorem chunkInsts_code (c : UInt8) (v : Bytes) : ∀ i ∈ chunkInsts c v, i.1 = c ∧ i.2.length ≤ 255 := by
  unfold chunkInsts
  split
  · simp
  · exact chunkInstsAux_code c _ _

theorem chunkInstsAux_value (c : UInt8) (fuel : Nat) (v : Bytes) (h : v.length ≤ fuel) :
    (chunkInstsAux c fuel v).flatMap (·.2) = v := by
  fun_induction chunkInstsAux c fuel v with
  | case1 => simp [List.eq_nil_of_length_eq_zero (Nat.le_zero.mp h)]
  | case2 fuel d hz => simp [List.eq_nil_of_length_eq_zero hz]
  | case3 fuel d hz n ih =>
    rw [List.flatMap_cons, ih (by simp [n, chunkMax]; split <;> omega), List.take_append_drop]

theorem chunkInsts_ne_nil (c : UInt8) (v : Bytes) : chunkInsts c v ≠ [] := by
  unfold chunkInsts
  cases v <;> simp [chunkInstsAux]

theorem chunkInsts_value (c : UInt8) (v : Bytes) : (chunkInsts c v).flatMap (·.2) = v := by
  unfold chunkInsts
  split
  · next h => simp [List.eq_nil_of_length_eq_zero h]
  · exact chunkInstsAux_value c _ _ (Nat.le_refl _)

theorem marshalOpts_eq_tlvs (o : Opts) : marshalOpts o = (instsOf o).flatMap tlv := by
  simp only [marshalOpts_eq, instsOf, List.flatMap_assoc, chunks_eq_tlvs]

theorem instsOf_ok (o : Opts) : ∀ i ∈ instsOf o, InstOK i := by
  intro i hi
  obtain ⟨c, hc, hi⟩ := List.mem_flatMap.mp hi
  have h1 := chunkInsts_code c _ i hi
  have h2 := (mem_marshalCodes o c).mp hc
  exact ⟨h1.1 ▸ h2.2.1, h1.1 ▸ h2.2.2, h1.2⟩

theorem filter_code_flatMap_chunkInsts (val : UInt8 → Bytes) (k : UInt8) : ∀ cs : List UInt8, cs.Nodup →
    (cs.flatMap (fun c => chunkInsts c (val c))).filter (fun i => i.1 = k)
      = if k ∈ cs then chunkInsts k (val k) else []
  | [], _ => rfl
  | c :: cs, h => by
    have hnd := List.nodup_cons.mp h
    rw [List.flatMap_cons, List.filter_append, filter_code_flatMap_chunkInsts val k cs hnd.2]
    by_cases hck : c = k
    · subst hck
      rw [List.filter_eq_self.mpr (fun i hi => by simp [(chunkInsts_code c _ i hi).1])]
      simp [hnd.1]
    · rw [List.filter_eq_nil_iff.mpr (fun i hi => by simp [(chunkInsts_code c _ i hi).1, hck])]
      simp [Ne.symm hck]

theorem valueOf_instsOf (o : Opts) (k : UInt8) :
    valueOf (instsOf o) k = if k ≠ 0 ∧ k ≠ 255 then o.f k else none := by
  unfold valueOf instsOf
  simp only [filter_code_flatMap_chunkInsts _ k _ (marshalCodes_nodup o), mem_marshalCodes]
  cases hf : o.f k with
  | none => simp
  | some v =>
    by_cases hk : k ≠ 0 ∧ k ≠ 255
    · simp [hk, chunkInsts_value, chunkInsts_ne_nil]
    · simp [hk]

theorem RunEnd_marshal (o : Opts) (tail : Bytes) :
    RunEnd (marshalOpts o ++ 255 :: tail) (instsOf o) := by
  have := RunEnd_tlvs (RunEnd.fin tail) (instsOf o) (instsOf_ok o)
  rwa [← marshalOpts_eq_tlvs, List.append_nil] at this

theorem optsLoop'_marshalOpts (o : Opts) (rest : Bytes) (o₀ : Opts) :
    optsLoop' ⟨marshalOpts o ++ rest, false⟩ o₀ = optsLoop' ⟨rest, false⟩ (appAll o₀ (instsOf o)) := by
  rw [marshalOpts_eq_tlvs, optsLoop'_tlvs rest _ _ (instsOf_ok o)]

theorem appAll_instsOf {o : Opts} (h0 : o.f 0 = none) (h255 : o.f 255 = none) :
    appAll Opts.empty (instsOf o) = o := by
  apply Opts.ext'
  intro k
  rw [appAll_empty_f, valueOf_instsOf]
  split
  · rfl
  · next h =>
    by_cases hk : k = 0
    · rw [hk, h0]
    · rw [show k = 255 by simpa [hk] using h, h255]

theorem optsFromBytes_marshal {o : Opts} (h0 : o.f 0 = none) (h255 : o.f 255 = none) (tail : Bytes) :
    optsFromBytes Opts.empty (marshalOpts o ++ 255 :: tail) true = some o := by
  rw [optsFromBytes_eq, if_neg (by simp), Lexer.new, optsLoop'_marshalOpts, optsLoop'_end, appAll_instsOf h0 h255]
  rfl

theorem keys_empty : Opts.empty.keys = [] := by
  unfold Opts.keys
  apply List.filter_eq_nil_iff.mpr
  intro k _
  simp [Opts.empty]

theorem marshalOpts_empty : marshalOpts Opts.empty = [] := by
  unfold marshalOpts sortedKeys
  rw [keys_empty]
  simp [Opts.has, Opts.empty]

end Dhcp.V4
