import Dhcp.Server
import DhcpProofs.Lemmas.V4Parse
/-
  The serving-loop model (`Dhcp.Server`).  `serveFrom_cons` is the iteration
  that goes on, `serveFrom_append` the loop over `a ++ b` as the loop over `a`
  followed, if it is still running, by the loop over `b`; what C14 says about
  one history (exactness, exactly once, exit) and about two histories
  (monotonicity, non-interference) is read off these two.  The comparisons of
  histories need no `NoPanic` hypothesis on the parts the histories share.
-/
namespace Dhcp.Server
open List

theorem dec4_ne_panic (b : Bytes) : V4.dec4 b ≠ .panic := V4.dec4_ne_panic b

theorem isZero4_iff (ip : Bytes) :
    isZero4 ip = true ↔
      (ip = [0, 0, 0, 0] ∨ ip = [0, 0, 0, 0, 0, 0, 0, 0, 0, 0, 255, 255, 0, 0, 0, 0]) := by
  constructor
  · intro h
    simp only [isZero4, V4.to4, ipv4zero4, beq_iff_eq] at h
    split at h
    · exact .inl (Option.some.inj h)
    · split at h
      · rename_i h16
        have e : ip = ip.take 10 ++ ((ip.drop 10).take 2 ++ ip.drop 12) := by
          rw [show ip.drop 12 = (ip.drop 10).drop 2 by simp, List.take_append_drop, List.take_append_drop]
        rw [e, h16.2.1, h16.2.2, Option.some.inj h]
        exact .inr rfl
      · cases h
  · rintro (rfl | rfl) <;> rfl

section
variable {α : Type} (dec : Bytes → Option α) (rule : Peer → Res Peer)

/-- no iteration panics (server4: no read returns a nil `*net.UDPAddr`) -/
def NoPanic (rs : List ReadResult) : Prop := ∀ r ∈ rs, step dec rule r ≠ .stop .panicked

theorem NoPanic.tail {r : ReadResult} {rs : List ReadResult} (h : NoPanic dec rule (r :: rs)) :
    NoPanic dec rule rs := fun x hx => h x (mem_cons_of_mem _ hx)

theorem NoPanic.append_left {a b : List ReadResult} (h : NoPanic dec rule (a ++ b)) :
    NoPanic dec rule a := fun x hx => h x (mem_append_left _ hx)

theorem step_eq_stop {r : ReadResult} {e : Exit} (h : step dec rule r = .stop e) :
    (r = .readError ∧ e = .returned) ∨ (r.isDatagram = true ∧ e = .panicked) := by
  cases r with
  | readError => cases h; exact .inl ⟨rfl, rfl⟩
  | datagram b p =>
    simp only [step] at h
    cases hd : dec (b.take readBufLen) with
    | none => simp [hd] at h
    | some m => cases hp : rule p <;> simp [hd, hp] at h; exact .inr ⟨rfl, h.symm⟩

theorem step_datagram_ne_stop {b : Bytes} {p : Peer}
    (h : step dec rule (.datagram b p) ≠ .stop .panicked) (e : Exit) :
    step dec rule (.datagram b p) ≠ .stop e := fun hs =>
  (step_eq_stop dec rule hs).elim (fun x => by cases x.1) (fun x => h (x.2 ▸ hs))

theorem step_take (b b' : Bytes) (p : Peer) (h : b.take readBufLen = b'.take readBufLen) :
    step dec rule (.datagram b p) = step dec rule (.datagram b' p) := by
  simp only [step, h]

theorem handlerCall_eq_step (r : ReadResult) (i : Nat) :
    handlerCall dec rule r i =
      match step dec rule r with
      | .invoke m p => some ⟨i, m, p⟩
      | _ => none := by
  cases r with
  | readError => rfl
  | datagram b p =>
    simp only [handlerCall, step]
    cases dec (b.take readBufLen) <;> simp only []
    cases rule p <;> rfl

theorem handlerCall_eq_some {r : ReadResult} {i : Nat} {v : Invocation α} (h : handlerCall dec rule r i = some v) :
    v.idx = i ∧ ∃ b p, r = .datagram b p ∧ dec (b.take readBufLen) = some v.msg ∧ rule p = .ok v.peer := by
  cases r with
  | readError => cases h
  | datagram b p =>
    simp only [handlerCall] at h
    cases hd : dec (b.take readBufLen) with
    | none => simp [hd] at h
    | some m =>
      cases hp : rule p <;> simp [hd, hp] at h
      subst h
      exact ⟨rfl, b, p, rfl, hd, hp⟩

theorem filter_handlerCall (r : ReadResult) (i k : Nat) :
    (handlerCall dec rule r i).toList.filter (fun v => v.idx == k) =
      if i = k then (handlerCall dec rule r i).toList else [] := by
  split
  · exact filter_eq_self.mpr fun v hv => by
      simp [(handlerCall_eq_some dec rule (Option.mem_toList.mp hv)).1, *]
  · exact filter_eq_nil_iff.mpr fun v hv => by
      simp [(handlerCall_eq_some dec rule (Option.mem_toList.mp hv)).1, *]

theorem serveFrom_cons {r : ReadResult} (h : ∀ e, step dec rule r ≠ .stop e) (i : Nat) (rest : List ReadResult) :
    serveFrom dec rule i (r :: rest) =
      ⟨(handlerCall dec rule r i).toList ++ (serveFrom dec rule (i + 1) rest).invocations,
        (serveFrom dec rule (i + 1) rest).exit⟩ := by
  rw [handlerCall_eq_step]
  simp only [serveFrom]
  cases hs : step dec rule r with
  | stop e => exact absurd hs (h e)
  | skip => rfl
  | invoke m p => rfl

theorem serveFrom_append (i : Nat) (a b : List ReadResult) :
    serveFrom dec rule i (a ++ b) =
      if (serveFrom dec rule i a).exit = .blocked then
        ⟨(serveFrom dec rule i a).invocations ++ (serveFrom dec rule (i + a.length) b).invocations,
          (serveFrom dec rule (i + a.length) b).exit⟩
      else serveFrom dec rule i a := by
  induction a generalizing i with
  | nil => simp [serveFrom]
  | cons r a ih =>
    have e : i + (r :: a).length = i + 1 + a.length := by simp; omega
    simp only [cons_append, serveFrom, e]
    cases hs : step dec rule r with
    | stop x => cases step_eq_stop dec rule hs with
      | inl h => simp [h.2]
      | inr h => simp [h.2]
    | skip => exact ih (i + 1)
    | invoke m p =>
      simp only [ih (i + 1)]
      split <;> simp

theorem serveFrom_mem (i : Nat) (rs : List ReadResult) (v : Invocation α)
    (hv : v ∈ (serveFrom dec rule i rs).invocations) :
    i ≤ v.idx ∧ ∃ b p, rs[v.idx - i]? = some (.datagram b p) ∧
      dec (b.take readBufLen) = some v.msg ∧ rule p = .ok v.peer := by
  induction rs generalizing i with
  | nil => simp [serveFrom] at hv
  | cons r rest ih =>
    cases hs : step dec rule r with
    | stop e => simp [serveFrom, hs] at hv
    | _ =>
      rw [serveFrom_cons dec rule (fun e => by simp [hs]), mem_append, Option.mem_toList] at hv
      rcases hv with hv | hv
      · obtain ⟨h1, b, p, rfl, h2⟩ := handlerCall_eq_some dec rule hv
        exact ⟨by omega, b, p, by simp [h1], h2⟩
      · obtain ⟨h1, b, p, h2, h3⟩ := ih (i + 1) hv
        refine ⟨by omega, b, p, ?_, h3⟩
        rw [show v.idx - i = (v.idx - (i + 1)) + 1 by omega, getElem?_cons_succ]
        exact h2

theorem serveFrom_idx_lt (i : Nat) (rs : List ReadResult) (v : Invocation α)
    (hv : v ∈ (serveFrom dec rule i rs).invocations) : i ≤ v.idx ∧ v.idx < i + rs.length := by
  obtain ⟨h1, b, p, h2, _⟩ := serveFrom_mem dec rule i rs v hv
  have := (List.getElem?_eq_some_iff.mp h2).1
  omega

theorem serveFrom_eq (i : Nat) (rs : List ReadResult) (h : NoPanic dec rule rs) :
    serveFrom dec rule i rs =
      ⟨((rs.takeWhile ReadResult.isDatagram).zipIdx i).filterMap (fun x => handlerCall dec rule x.1 x.2),
        if .readError ∈ rs then .returned else .blocked⟩ := by
  induction rs generalizing i with
  | nil => rfl
  | cons r rest ih =>
    cases r with
    | readError => simp [serveFrom, step, ReadResult.isDatagram]
    | datagram b p =>
      rw [serveFrom_cons dec rule (step_datagram_ne_stop dec rule (h _ (mem_cons_self ..))), ih (i + 1) h.tail]
      simp only [takeWhile_cons, ReadResult.isDatagram, if_true, zipIdx_cons, filterMap_cons]
      cases handlerCall dec rule (.datagram b p) i <;> simp

theorem serveFrom_exit (i : Nat) (rs : List ReadResult) (h : NoPanic dec rule rs) :
    ((serveFrom dec rule i rs).exit = .returned ↔ .readError ∈ rs) ∧
      ((serveFrom dec rule i rs).exit = .blocked ↔ .readError ∉ rs) ∧
      (serveFrom dec rule i rs).exit ≠ .panicked := by
  rw [serveFrom_eq dec rule i rs h]
  split <;> simp [*]

theorem serveFrom_filter_idx (i j : Nat) (rs : List ReadResult) (h : NoPanic dec rule rs)
    (r : ReadResult) (hr : rs[j]? = some r)
    (hj : j < (rs.takeWhile ReadResult.isDatagram).length) :
    (serveFrom dec rule i rs).invocations.filter (fun v => v.idx == i + j) =
      (handlerCall dec rule r (i + j)).toList := by
  induction rs generalizing i j with
  | nil => simp at hr
  | cons x rest ih =>
    cases x with
    | readError => simp [ReadResult.isDatagram] at hj
    | datagram b p =>
      simp only [takeWhile_cons, ReadResult.isDatagram, if_true, length_cons] at hj
      rw [serveFrom_cons dec rule (step_datagram_ne_stop dec rule (h _ (mem_cons_self ..))), filter_append,
        filter_handlerCall]
      cases j with
      | zero =>
        cases Option.some.inj hr
        rw [Nat.add_zero, if_pos rfl, filter_eq_nil_iff.mpr, append_nil]
        intro v hv
        have := (serveFrom_mem dec rule (i + 1) rest v hv).1
        simp; omega
      | succ j' =>
        rw [if_neg (by omega), nil_append, show i + (j' + 1) = i + 1 + j' by omega]
        exact ih (i + 1) j' h.tail hr (by omega)

theorem serveFrom_shift (i j : Nat) (rs : List ReadResult) :
    (serveFrom dec rule i rs).calls = (serveFrom dec rule j rs).calls ∧
      (serveFrom dec rule i rs).exit = (serveFrom dec rule j rs).exit := by
  induction rs generalizing i j with
  | nil => simp [serveFrom, Outcome.calls]
  | cons r rest ih =>
    simp only [serveFrom]
    cases step dec rule r with
    | stop e => simp [Outcome.calls]
    | skip => exact ih (i + 1) (j + 1)
    | invoke m p =>
      have := ih (i + 1) (j + 1)
      simp only [Outcome.calls, map_cons] at this ⊢
      exact ⟨by rw [this.1], this.2⟩

theorem serveFrom_skip (i : Nat) (a c : List ReadResult) (r : ReadResult)
    (hr : step dec rule r = .skip) :
    (serveFrom dec rule i (a ++ r :: c)).calls = (serveFrom dec rule i (a ++ c)).calls ∧
      (serveFrom dec rule i (a ++ r :: c)).exit = (serveFrom dec rule i (a ++ c)).exit := by
  have := serveFrom_shift dec rule (i + a.length + 1) (i + a.length) c
  rw [serveFrom_append, serveFrom_append (b := c)]
  split
  · simp only [serveFrom, hr, Outcome.calls, map_append] at this ⊢
    exact ⟨by rw [this.1], this.2⟩
  · exact ⟨rfl, rfl⟩

theorem serveFrom_readError (i : Nat) (a b b' : List ReadResult) :
    serveFrom dec rule i (a ++ .readError :: b) = serveFrom dec rule i (a ++ .readError :: b') := by
  rw [serveFrom_append, serveFrom_append (b := .readError :: b')]
  simp only [serveFrom, step]

theorem serve_mem (rs : List ReadResult) (v : Invocation α) (hv : v ∈ (serve dec rule rs).invocations) :
    ∃ b p, rs[v.idx]? = some (.datagram b p) ∧ dec (b.take readBufLen) = some v.msg ∧ rule p = .ok v.peer :=
  (serveFrom_mem dec rule 0 rs v hv).2

theorem serve_filter_idx (rs : List ReadResult) (h : NoPanic dec rule rs) (i : Nat) (r : ReadResult)
    (hr : rs[i]? = some r) (hi : i < (rs.takeWhile ReadResult.isDatagram).length) :
    (serve dec rule rs).invocations.filter (fun v => v.idx == i) = (handlerCall dec rule r i).toList := by
  have := serveFrom_filter_idx dec rule 0 i rs h r hr hi
  rwa [Nat.zero_add] at this

theorem serve_append (a b : List ReadResult) :
    serve dec rule (a ++ b) =
      if (serve dec rule a).exit = .blocked then
        ⟨(serve dec rule a).invocations ++ (serveFrom dec rule a.length b).invocations,
          (serveFrom dec rule a.length b).exit⟩
      else serve dec rule a := by
  have := serveFrom_append dec rule 0 a b
  rwa [Nat.zero_add] at this

theorem serve_before (a rest : List ReadResult) :
    (serve dec rule (a ++ rest)).invocations.filter (fun v => decide (v.idx < a.length)) =
      (serve dec rule a).invocations := by
  have ha : (serve dec rule a).invocations.filter (fun v => decide (v.idx < a.length)) = _ :=
    filter_eq_self.mpr fun v hv => by simpa using (serveFrom_idx_lt dec rule 0 a v hv).2
  rw [serve_append]
  split
  · rw [filter_append, ha, filter_eq_nil_iff.mpr, append_nil]
    intro v hv
    simpa using (serveFrom_idx_lt dec rule a.length rest v hv).1
  · exact ha

theorem serve_prefix (a b : List ReadResult) :
    (serve dec rule a).invocations <+: (serve dec rule (a ++ b)).invocations ∧
    (serve dec rule (a ++ b)).invocations.filter (fun v => decide (v.idx < a.length)) =
      (serve dec rule a).invocations ∧
    ((serve dec rule a).exit ≠ .blocked → serve dec rule (a ++ b) = serve dec rule a) := by
  refine ⟨?_, serve_before dec rule a b, ?_⟩ <;> rw [serve_append] <;> split
  · exact prefix_append _ _
  · exact prefix_refl _
  · exact fun hne => absurd ‹_› hne
  · exact fun _ => rfl

theorem serve_nonint (a c : List ReadResult) (r r' : ReadResult)
    (hr : ∀ e, step dec rule r ≠ .stop e) (hr' : ∀ e, step dec rule r' ≠ .stop e) :
    (serve dec rule (a ++ r :: c)).invocations.filter (fun v => v.idx != a.length) =
      (serve dec rule (a ++ r' :: c)).invocations.filter (fun v => v.idx != a.length) ∧
    (serve dec rule (a ++ r :: c)).exit = (serve dec rule (a ++ r' :: c)).exit := by
  have own : ∀ x : ReadResult, (handlerCall dec rule x a.length).toList.filter (fun v => v.idx != a.length) = [] :=
    fun x => filter_eq_nil_iff.mpr fun v hv => by
      simp [(handlerCall_eq_some dec rule (Option.mem_toList.mp hv)).1]
  rw [serve_append, serve_append (b := r' :: c), serveFrom_cons dec rule hr, serveFrom_cons dec rule hr']
  split
  · simp only [filter_append, own]
    exact ⟨trivial, trivial⟩
  · exact ⟨rfl, rfl⟩

theorem serve_congr_step (a c : List ReadResult) (r r' : ReadResult)
    (h : step dec rule r = step dec rule r') :
    serve dec rule (a ++ r :: c) = serve dec rule (a ++ r' :: c) := by
  rw [serve_append, serve_append (b := r' :: c)]
  simp only [serveFrom, h]

theorem serve_read_completing (a c : List ReadResult) (ha : a.all ReadResult.isDatagram = true)
    (b : Bytes) (p : Peer) (h : NoPanic dec rule (a ++ .datagram b p :: .readError :: c)) :
    let rs := a ++ .datagram b p :: .readError :: c
    (serve dec rule rs).invocations.filter (fun v => v.idx == a.length) =
        (handlerCall dec rule (.datagram b p) a.length).toList ∧
      (serve dec rule rs).exit = .returned ∧
      serve dec rule rs = serve dec rule (a ++ [.datagram b p, .readError]) := by
  intro rs
  have htw : rs.takeWhile ReadResult.isDatagram = a ++ [.datagram b p] := by
    simp only [rs]
    rw [List.takeWhile_append_of_pos (by simpa [List.all_eq_true] using ha)]
    simp [List.takeWhile, ReadResult.isDatagram]
  refine ⟨serve_filter_idx dec rule rs h _ _ (by simp [rs]) (by simp [htw]),
    (serveFrom_exit dec rule 0 rs h).1.mpr (by simp [rs]), ?_⟩
  have := serveFrom_readError dec rule 0 (a ++ [.datagram b p]) c []
  simpa [rs, serve, List.append_assoc] using this
end

theorem step_ne_panicked {α : Type} (dec : Bytes → Option α) {rule : Peer → Res Peer} {p : Peer}
    (h : rule p ≠ .panic) (b : Bytes) : step dec rule (.datagram b p) ≠ .stop .panicked := by
  simp only [step]
  cases dec (b.take readBufLen) with
  | none => simp
  | some m => cases hp : rule p <;> simp; exact h hp

theorem peer6_ne_panic (p : Peer) : peer6 p ≠ .panic := nofun

theorem peer4_ne_panic {p : Peer} (h : p ≠ .udpNilPtr) : peer4 p ≠ .panic := by
  cases p with
  | udp ip port zone =>
    cases ip with
    | none => simp [peer4]
    | some ip => by_cases hz : isZero4 ip = true <;> simp [peer4, hz]
  | udpNilPtr => exact absurd rfl h
  | other id => simp [peer4]
  | nilAddr => simp [peer4]

theorem noPanic_of_rule {α : Type} (dec : Bytes → Option α) {rule : Peer → Res Peer} {rs : List ReadResult}
    (h : ∀ b p, .datagram b p ∈ rs → rule p ≠ .panic) : NoPanic dec rule rs := by
  intro r hr
  cases r with
  | readError => simp [step]
  | datagram b p => exact step_ne_panicked dec (h b p hr) b

theorem peer6_noPanic {α : Type} (dec : Bytes → Option α) (rs : List ReadResult) :
    NoPanic dec peer6 rs := noPanic_of_rule dec fun _ p _ => peer6_ne_panic p

theorem peer4_noPanic {α : Type} (dec : Bytes → Option α) (rs : List ReadResult)
    (h : ∀ b, ReadResult.datagram b .udpNilPtr ∉ rs) : NoPanic dec peer4 rs :=
  noPanic_of_rule dec fun b _ hr => peer4_ne_panic fun e => h b (e ▸ hr)

end Dhcp.Server
