import DhcpProofs.Lemmas.LabelSpec
/-
  The encoder `labelToBytes` / `labelsToBytes` on valid names: the model's
  `strings.Split` agrees with the spec's `nameLabels`, and the encoding of a
  list of valid names has exactly that list as its RFC reading.
-/
namespace Dhcp.Label
open Dhcp.Spec.Name

theorem nameLabels_cons (s : Bytes) : ∃ p ps, nameLabels s = p :: ps := by
  induction s with
  | nil => exact ⟨[], [], rfl⟩
  | cons b t ih =>
    obtain ⟨p, ps, h⟩ := ih
    unfold nameLabels
    by_cases hb : b = 46 <;> simp [hb, h]

def headApp (cur : Bytes) : List Bytes → List Bytes
  | [] => [cur]
  | p :: ps => (cur ++ p) :: ps

theorem splitAux_eq (s : Bytes) : ∀ cur, splitAux cur s = headApp cur (nameLabels s) := by
  induction s with
  | nil => intro cur; simp [splitAux, nameLabels, headApp]
  | cons b t ih =>
    intro cur
    obtain ⟨p, ps, h⟩ := nameLabels_cons t
    unfold splitAux nameLabels
    by_cases hb : b = 46 <;> simp [hb, ih, h, headApp]

theorem splitDot_eq (s : Bytes) : splitDot s = nameLabels s := by
  obtain ⟨p, ps, h⟩ := nameLabels_cons s
  simp [splitDot, splitAux_eq, h, headApp]

theorem dotted_nameLabels (s : Bytes) : dotted (nameLabels s) = s := by
  induction s with
  | nil => simp [nameLabels, dotted]
  | cons b t ih =>
    obtain ⟨p, ps, h⟩ := nameLabels_cons t
    unfold nameLabels
    rw [h] at ih ⊢
    by_cases hb : b = 46
    · simp only [hb, if_true, dotted, List.nil_append, ih]
    · simp only [hb, if_false]
      cases ps with
      | nil => simp only [dotted] at ih ⊢; rw [ih]
      | cons p' ps' =>
        simp only [dotted] at ih ⊢
        rw [← ih]; simp

/-- wire form of a run of labels (`byte(len(part))`, then the part) -/
def encLabels (ls : List Bytes) : Bytes := ls.flatMap (fun p => UInt8.ofNat p.length :: p)

theorem labelSeq_encLabels (ls : List Bytes) (rest : Bytes)
    (h : ∀ l ∈ ls, 1 ≤ l.length ∧ l.length ≤ 63) : LabelSeq (encLabels ls ++ rest) ls rest := by
  induction ls with
  | nil => simp [encLabels]; exact LabelSeq.nil rest
  | cons l ls ih =>
    have hl := h l (by simp)
    have := LabelSeq.cons l ls (encLabels ls ++ rest) rest hl.1 hl.2
      (ih (fun x hx => h x (by simp [hx])))
    simpa [encLabels, List.append_assoc] using this

theorem labelToBytes_valid {n : Bytes} (h : ValidName n) :
    ∃ ls, labelToBytes n = encLabels ls ++ [0] ∧ dotted ls = n ∧ ∀ l ∈ ls, 1 ≤ l.length ∧ l.length ≤ 63 := by
  by_cases hnil : n = []
  · subst hnil; exact ⟨[], rfl, rfl, by simp⟩
  · refine ⟨nameLabels n, ?_, dotted_nameLabels n, h.2.resolve_left hnil⟩
    simp [labelToBytes, encLabels, hnil, splitDot_eq]

theorem names_encode (msg : Bytes) (ns : List Bytes) (h : ValidNames ns) :
    Names msg (labelsToBytes ns) ns := by
  induction ns with
  | nil => exact Names.done
  | cons n ns ih =>
    obtain ⟨ls, he, hd, hl⟩ := labelToBytes_valid (h n (by simp))
    have := Names.plain (msg := msg) _ ls _ ns (labelSeq_encLabels ls (0 :: labelsToBytes ns) hl)
      (hd ▸ (h n (by simp)).1) (ih fun x hx => h x (by simp [hx]))
    simpa [labelsToBytes, he, hd] using this

end Dhcp.Label
