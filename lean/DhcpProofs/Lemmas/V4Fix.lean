import DhcpProofs.Lemmas.V4Parse
import DhcpProofs.Lemmas.V4RoundTrip
/- Decoded DHCPv4 packets are (after the name-capacity cut) encodable: basis of the C06 fixpoint. -/
namespace Dhcp.V4
open Dhcp.Spec

/-- "names cut to their NUL-terminated capacity": a server name of exactly 64
(boot file of exactly 128) NUL-free bytes loses its last byte on re-encoding;
identity on every other decoded packet. -/
def cutNames (p : Pkt4) : Pkt4 :=
  { p with sname := p.sname.take (snameCap - 1), file := p.file.take (fileCap - 1) }

theorem copyInto_take (n : Nat) (s : Bytes) : copyInto n (s.take n) = copyInto n s := by
  simp [copyInto, List.take_take]

theorem enc4_cutNames (p : Pkt4) : enc4 (cutNames p) = enc4 p := by
  simp only [enc4, cutNames, nameField, copyInto_take]

theorem RunEnd_codes {a : Bytes} {is : List (UInt8 × Bytes)} (h : RunEnd a is) :
    ∀ i ∈ is, i.1 ≠ 0 ∧ i.1 ≠ 255 := by
  induction h with
  | fin _ => intro i hi; simp at hi
  | pad _ ih => exact ih
  | opt c len v h0 h255 _ _ ih =>
    intro i hi
    rcases List.mem_cons.mp hi with h | h
    · subst h; exact ⟨h0, h255⟩
    · exact ih i h

theorem valueOf_none_of_no_code (is : List (UInt8 × Bytes)) (c : UInt8) (h : ∀ i ∈ is, i.1 ≠ c) :
    valueOf is c = none := by
  have : is.filter (fun i => decide (i.1 = c)) = [] := by
    apply List.filter_eq_nil_iff.mpr
    intro i hi; simp [h i hi]
  simp [valueOf, this]

theorem optsFromBytes_no_pad_end {a : Bytes} {o : Opts} (h : optsFromBytes Opts.empty a true = some o) :
    o.f 0 = none ∧ o.f 255 = none := by
  obtain ⟨is, hA, rfl⟩ := (optsFromBytes_checkEnd_iff _ _).mp h
  have hcodes : ∀ i ∈ is, i.1 ≠ 0 ∧ i.1 ≠ 255 := by
    rcases hA with ⟨_, rfl⟩ | hA
    · simp
    · exact RunEnd_codes hA
  rw [appAll_empty_f, appAll_empty_f]
  exact ⟨valueOf_none_of_no_code is 0 fun i hi => (hcodes i hi).1,
    valueOf_none_of_no_code is 255 fun i hi => (hcodes i hi).2⟩

theorem takeWhile_ne_zero_no_nul (s : Bytes) : ∀ b ∈ s.takeWhile (· != 0), b ≠ 0 :=
  fun b hb => by simpa using List.all_eq_true.mp (List.all_takeWhile (p := (· != 0)) (l := s)) b hb

theorem beNat_slice_lt (b : Bytes) (i : Nat) (h : i + 2 ≤ b.length) : beNat (slice b i (i + 2)) < 65536 := by
  obtain ⟨x, y, hxy⟩ := len2 (l := slice b i (i + 2)) (by rw [slice_length b _ _ h]; omega)
  rw [hxy]; exact beNat_lt_two x y

theorem decoded_encodable (b : Bytes) (p : Pkt4) (h : dec4 b = .ok p) : Encodable (cutNames p) := by
  obtain ⟨hlen, _, o, ho, rfl⟩ := (dec4_ok_iff b p).mp h
  have ip (i : Nat) (hj : i + 4 ≤ b.length) : ipOK (some (slice b i (i + 4))) := by
    simp [ipOK, to4_of_length (x := slice b i (i + 4)) (by rw [slice_length b _ _ hj]; omega)]
  obtain ⟨ht, hht⟩ := List.length_eq_one_iff.mp (slice_length b 1 2 (by omega))
  exact {
    htype := by simp only [cutNames, hdr4, hht]; have := ht.toNat_lt; simp [beNat]; omega
    hw := by simp [cutNames, hdr4, List.length_take]; omega
    xid := slice_length b 4 8 (by omega)
    secs := beNat_slice_lt b 8 (by omega)
    flags := beNat_slice_lt b 10 (by omega)
    ci := ip 12 (by omega), yi := ip 16 (by omega), si := ip 20 (by omega), gi := ip 24 (by omega)
    sname_len := by simp [cutNames, snameCap, List.length_take]; omega
    sname_nul := fun x hx => takeWhile_ne_zero_no_nul _ x (List.mem_of_mem_take hx)
    file_len := by simp [cutNames, fileCap, List.length_take]; omega
    file_nul := fun x hx => takeWhile_ne_zero_no_nul _ x (List.mem_of_mem_take hx)
    no_pad := (optsFromBytes_no_pad_end ho).1
    no_end := (optsFromBytes_no_pad_end ho).2 }

theorem norm_decoded (b : Bytes) (p : Pkt4) (h : dec4 b = .ok p) : norm (cutNames p) = cutNames p := by
  obtain ⟨hlen, _, o, _, rfl⟩ := (dec4_ok_iff b p).mp h
  have e (i : Nat) (hj : i + 4 ≤ b.length) : ip4 (some (slice b i (i + 4))) = slice b i (i + 4) := by
    simp [ip4, to4_of_length (x := slice b i (i + 4)) (by rw [slice_length b _ _ hj]; omega)]
  simp only [norm, cutNames, hdr4, e 12 (by omega), e 16 (by omega), e 20 (by omega), e 24 (by omega)]

theorem dec4_fixpoint (b : Bytes) (p : Pkt4) (h : dec4 b = .ok p) :
    ∃ b₁, enc4 p = .ok b₁ ∧ dec4 b₁ = .ok (cutNames p) ∧ enc4 (cutNames p) = .ok b₁ := by
  obtain ⟨b₁, h1, h2⟩ := enc4_dec4 (cutNames p) (decoded_encodable b p h)
  rw [norm_decoded b p h] at h2
  exact ⟨b₁, by rw [← enc4_cutNames]; exact h1, h2, h1⟩

theorem cutNames_id_of_short (p : Pkt4) (h1 : p.sname.length ≤ 63) (h2 : p.file.length ≤ 127) :
    cutNames p = p := by
  cases p
  simp only [cutNames, snameCap, fileCap] at *
  simp [List.take_of_length_le h1, List.take_of_length_le h2]

end Dhcp.V4
