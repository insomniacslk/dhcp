import Dhcp.Client.Refine
import DhcpProofs.Lemmas.ClientTimed
/-
  Refinement between the timed machine of one `SendAndRead` call
  (Dhcp.Client.Timed) and the abstract call `stream.find? match` of the lease
  model (Dhcp.Client.Lease).  Definitions: Dhcp/Client/Refine.lean.
  Headline statements: DhcpProofs/Props/C13.lean (`C13_call_*`, `C13_*_timed`).
  The first part (to `end Dhcp.Client.Timed`: observation sequences in time order,
  `first_terminal`) extends namespace `Timed`; the rest is in `Refine`.
-/
namespace Dhcp.Client.Timed

theorem quiet_running {T n : Int} (hT : 0 < T) (pre : List Obs) (τ : Int) (hq : Quiet pre)
    (hpre : ∀ p ∈ pre, p.t ≤ τ) (h0 : 0 ≤ τ) (hb : n < 0 ∨ τ < off T n.toNat) :
    (runObs T n pre τ).ret = none := by
  rcases runObs_cases (n := n) hT pre τ (quiet_inert hq) with ⟨hn, _, h⟩ | ⟨k, _, h, _⟩ | ⟨hf, _⟩
  · have := h hpre h0; omega
  · rw [h]
  · exact hf.elim

theorem quiet_then_terminal_ret {T n : Int} (hT : 0 < T) (pre post : List Obs) (o : Obs) (H : Int)
    (hq : Quiet pre) (ht : Terminal o) (h0 : 0 ≤ o.t) (hpre : ∀ p ∈ pre, p.t ≤ o.t)
    (hb : n < 0 ∨ o.t < off T n.toNat) :
    (runObs T n (pre ++ o :: post) H).ret = some (o.t, terminalOutcome o) := by
  rcases quiet_then_terminal_cases (n := n) hT pre post o H (quiet_inert hq) ht h0 hpre with ⟨hn, hle, _⟩ | ⟨k, _, _, _, _, h⟩
  · omega
  · rw [h]

def isTerminal (o : Obs) : Bool := o.kind == .acc || o.kind == .ctx || o.kind == .closed

theorem isTerminal_iff (o : Obs) : isTerminal o = true ↔ Terminal o := by
  unfold isTerminal Terminal
  cases o.kind <;> simp

theorem isTerminal_false_iff (o : Obs) : isTerminal o = false ↔ (o.kind = .irr ∨ o.kind = .rej) := by
  unfold isTerminal
  cases o.kind <;> simp

def OrderedObs (obs : List Obs) : Prop := (∀ o ∈ obs, 0 ≤ o.t) ∧ obs.Pairwise (fun a b => a.t ≤ b.t)

theorem orderedObs_iff (v : List Obs) :
    OrderedObs v ↔ (∀ t ∈ v.map (·.t), 0 ≤ t) ∧ (v.map (·.t)).Pairwise (· ≤ ·) := by
  simp [OrderedObs, List.pairwise_map]

theorem OrderedObs.split {obs : List Obs} {o : Obs} (ho : OrderedObs obs) (hf : obs.find? isTerminal = some o) :
    ∃ pre post, obs = pre ++ o :: post ∧ Quiet pre ∧ Terminal o ∧ 0 ≤ o.t ∧ (∀ p ∈ pre, p.t ≤ o.t) ∧
      ∀ p ∈ post, o.t ≤ p.t := by
  obtain ⟨hto, pre, post, rfl, hpre⟩ := List.find?_eq_some_iff_append.1 hf
  have hp := List.pairwise_append.1 ho.2
  exact ⟨pre, post, rfl, fun p h => (isTerminal_false_iff p).1 (by simpa using hpre p h), (isTerminal_iff o).1 hto,
    ho.1 o (by simp), fun p h => hp.2.2 p h o (List.mem_cons_self ..), (List.pairwise_cons.1 hp.2.1).1⟩

theorem first_terminal {T n : Int} (hT : 0 < T) (obs : List Obs) (H : Int) (ho : OrderedObs obs) :
    (∀ o, obs.find? isTerminal = some o → (n < 0 ∨ o.t < off T n.toNat) →
      (runObs T n obs H).ret = some (o.t, terminalOutcome o)) ∧
    (obs.find? isTerminal = none → Quiet obs) := by
  constructor
  · intro o hf hb
    obtain ⟨pre, post, rfl, hq, ht, h0, hle, _⟩ := ho.split hf
    exact quiet_then_terminal_ret hT pre post o H hq ht h0 hle hb
  · intro hf p hp
    exact (isTerminal_false_iff p).1 (by simpa using List.find?_eq_none.1 hf p hp)

theorem noResp_of_quiet_ret {ret : Option (Int × Outcome)} (h : ret = none ∨ ∃ t, ret = some (t, .noResp)) :
    ∀ t i, ret ≠ some (t, .resp i) := by
  rintro t i rfl
  rcases h with h | ⟨_, h⟩ <;> cases h

theorem resp_first_acc {T n : Int} (hT : 0 < T) (v : List Obs) (H t : Int) (i : Nat) (ho : OrderedObs v)
    (h : (runObs T n v H).ret = some (t, .resp i)) :
    ∃ pre o post, v = pre ++ o :: post ∧ Quiet pre ∧ o.kind = .acc ∧ o.tag = i ∧ o.t = t := by
  cases hf : v.find? isTerminal with
  | none => exact absurd h (noResp_of_quiet_ret (quiet_ret hT v H ((first_terminal (n := n) hT v H ho).2 hf)) t i)
  | some o =>
    obtain ⟨pre, post, rfl, hq, ht, h0, hle, _⟩ := ho.split hf
    refine ⟨pre, o, post, rfl, hq, ?_⟩
    rcases quiet_then_terminal_cases (n := n) hT pre post o H (quiet_inert hq) ht h0 hle
      with ⟨_, _, hr⟩ | ⟨_, _, _, _, _, hr⟩ <;> rw [hr] at h
    · cases h
    · injection h with h; injection h with h1 h2
      unfold terminalOutcome at h2
      cases hk : o.kind <;> rw [hk] at h2 <;> cases h2
      exact ⟨rfl, rfl, h1⟩

theorem acc_late_of_no_resp {T n : Int} (hT : 0 < T) (v : List Obs) (H : Int) (ho : OrderedObs v)
    (hk : ∀ o ∈ v, Terminal o → o.kind = .acc) (hno : ∀ t i, (runObs T n v H).ret ≠ some (t, .resp i))
    (o : Obs) (hmem : o ∈ v) (hacc : o.kind = .acc) : 0 ≤ n ∧ off T n.toNat ≤ o.t := by
  cases hf : v.find? isTerminal with
  | none => simpa [isTerminal, hacc] using List.find?_eq_none.1 hf o hmem
  | some o' =>
    obtain ⟨pre, post, rfl, hq, ht, _, _, hpost⟩ := ho.split hf
    -- the first terminal observation is no later than `o`; were it before the budget it would be returned
    have hle : o'.t ≤ o.t := by
      rcases List.mem_append.1 hmem with h | h
      · exact absurd (.inl hacc) (not_terminal_of_quiet (hq o h))
      · rcases List.mem_cons.1 h with rfl | h
        · exact Int.le_refl _
        · exact hpost o h
    refine Classical.byContradiction fun hc => hno o'.t o'.tag ?_
    rw [(first_terminal (n := n) hT _ H ho).1 o' hf (by omega), terminalOutcome, hk o' (by simp) ht]

end Dhcp.Client.Timed

namespace Dhcp.Client.Refine
open Dhcp.Client.Timed

variable {α : Type}

theorem callBudget_eq_off (T n : Int) : callBudget T n = off T n.toNat := rfl

theorem obsFrom_eq (m : α → Bool) (fl : Nat → Bool) (i : Nat) (arr : List (Int × α)) :
    obsFrom m fl i arr = (arr.zipIdx i).map (fun p => ⟨p.1.1, kindOf m p.1.2, p.2, fl p.2⟩) := by
  induction arr generalizing i with
  | nil => rfl
  | cons a arr ih => simp [obsFrom, ih]

theorem obsFrom_append (m : α → Bool) (fl : Nat → Bool) (i : Nat) (a b : List (Int × α)) :
    obsFrom m fl i (a ++ b) = obsFrom m fl i a ++ obsFrom m fl (i + a.length) b := by
  simp [obsFrom_eq, List.zipIdx_append]

theorem obsFrom_getElem? (m : α → Bool) (fl : Nat → Bool) (i : Nat) (arr : List (Int × α)) (j : Nat) :
    (obsFrom m fl i arr)[j]? = (arr[j]?).map (fun a => (⟨a.1, kindOf m a.2, i + j, fl (i + j)⟩ : Obs)) := by
  simp [obsFrom_eq, Function.comp_def]

theorem mem_obsFrom_idx (m : α → Bool) (fl : Nat → Bool) (i : Nat) (arr : List (Int × α)) (o : Obs)
    (h : o ∈ obsFrom m fl i arr) :
    ∃ j a, arr[j]? = some a ∧ o = ⟨a.1, kindOf m a.2, i + j, fl (i + j)⟩ := by
  obtain ⟨j, hj⟩ := List.getElem?_of_mem h
  rw [obsFrom_getElem?, Option.map_eq_some_iff] at hj
  obtain ⟨a, ha, rfl⟩ := hj
  exact ⟨j, a, ha, rfl⟩

theorem mem_obsFrom (m : α → Bool) (fl : Nat → Bool) (i : Nat) (arr : List (Int × α)) (o : Obs)
    (h : o ∈ obsFrom m fl i arr) : ∃ a ∈ arr, o.t = a.1 ∧ o.kind = kindOf m a.2 := by
  obtain ⟨j, a, ha, rfl⟩ := mem_obsFrom_idx m fl i arr o h
  exact ⟨a, List.mem_of_getElem? ha, rfl, rfl⟩

theorem kindOf_rej {m : α → Bool} {p : α} (h : m p = false) : kindOf m p = .rej := by simp [kindOf, h]
theorem kindOf_acc {m : α → Bool} {p : α} (h : m p = true) : kindOf m p = .acc := by simp [kindOf, h]

theorem obsFrom_quiet (m : α → Bool) (fl : Nat → Bool) (i : Nat) (arr : List (Int × α))
    (h : ∀ a ∈ arr, m a.2 = false) : Quiet (obsFrom m fl i arr) := by
  intro o ho
  obtain ⟨a, ha, _, hk⟩ := mem_obsFrom m fl i arr o ho
  right; rw [hk]; exact kindOf_rej (h a ha)

theorem ordered_iff (arr : List (Int × α)) :
    Ordered arr ↔ (∀ t ∈ arr.map (·.1), 0 ≤ t) ∧ (arr.map (·.1)).Pairwise (· ≤ ·) := by
  simp [Ordered, List.pairwise_map]

theorem obsFrom_map_t (m : α → Bool) (fl : Nat → Bool) (i : Nat) (arr : List (Int × α)) :
    (obsFrom m fl i arr).map (·.t) = arr.map (·.1) := by
  induction arr generalizing i with
  | nil => rfl
  | cons a arr ih => simp [obsFrom, ih]

theorem obsFrom_ordered (m : α → Bool) (fl : Nat → Bool) (i : Nat) (arr : List (Int × α)) (h : Ordered arr) :
    OrderedObs (obsFrom m fl i arr) :=
  (orderedObs_iff _).2 (obsFrom_map_t m fl i arr ▸ (ordered_iff arr).1 h)

theorem find_split (m : α → Bool) (arr : List (Int × α)) (p : α) (h : (streamOf arr).find? m = some p) :
    ∃ pre t post, arr = pre ++ (t, p) :: post ∧ (∀ a ∈ pre, m a.2 = false) ∧ m p = true := by
  obtain ⟨hp, as, bs, heq, has⟩ := List.find?_eq_some_iff_append.1 h
  obtain ⟨pre, rest, rfl, rfl, hr⟩ := List.map_eq_append_iff.1 heq
  obtain ⟨⟨t, _⟩, post, rfl, rfl, _⟩ := List.map_eq_cons_iff.1 hr
  exact ⟨pre, t, post, rfl, fun a ha => by simpa using has a.2 (List.mem_map_of_mem ha), hp⟩

theorem find_none (m : α → Bool) (arr : List (Int × α)) (h : (streamOf arr).find? m = none) :
    ∀ a ∈ arr, m a.2 = false := by
  intro a ha
  have := List.find?_eq_none.1 h a.2 (by simp only [streamOf]; exact List.mem_map_of_mem ha)
  simpa using this

theorem find_of_split (m : α → Bool) (pre post : List (Int × α)) (t : Int) (p : α)
    (hpre : ∀ a ∈ pre, m a.2 = false) (hp : m p = true) :
    (streamOf (pre ++ (t, p) :: post)).find? m = some p := by
  simp only [streamOf, List.map_append, List.map_cons]
  refine List.find?_eq_some_iff_append.2 ⟨hp, _, _, rfl, fun q hq => ?_⟩
  obtain ⟨a, ha, rfl⟩ := List.mem_map.1 hq
  simp [hpre a ha]

theorem obsFrom_le (m : α → Bool) (fl : Nat → Bool) (i : Nat) (arr : List (Int × α)) (c : Int)
    (h : ∀ a ∈ arr, a.1 ≤ c) : ∀ o ∈ obsFrom m fl i arr, o.t ≤ c := by
  intro o ho
  obtain ⟨a, ha, hta, _⟩ := mem_obsFrom m fl i arr o ho
  rw [hta]; exact h a ha

theorem InBudget.lt {T n : Int} {arr : List (Int × α)} (hb : InBudget T n arr) {a : Int × α} (ha : a ∈ arr) :
    n < 0 ∨ a.1 < callBudget T n :=
  (Int.lt_or_le n 0).imp_right (hb · a ha)

theorem refines_split {T n : Int} (hT : 0 < T) (m : α → Bool) (fl : Nat → Bool) (pre post : List (Int × α))
    (t : Int) (p : α) (ho : Ordered (pre ++ (t, p) :: post)) (hpre : ∀ a ∈ pre, m a.2 = false) (hp : m p = true)
    (rest : List Obs) (H : Int) (hb : n < 0 ∨ t < callBudget T n) :
    ∃ k : Nat, off T k ≤ t ∧ t ≤ off T (k + 1) ∧ (fl pre.length = true → t < off T (k + 1)) ∧ (n < 0 ∨ (k : Int) < n) ∧
      runObs T n (obsOf m fl (pre ++ (t, p) :: post) ++ rest) H = ⟨sched T (k + 1), some (t, .resp pre.length)⟩ := by
  have hle : ∀ a ∈ pre, a.1 ≤ t := fun a ha => (List.pairwise_append.1 ho.2).2.2 a ha (t, p) (List.mem_cons_self ..)
  have hsplit : obsOf m fl (pre ++ (t, p) :: post) ++ rest = obsFrom m fl 0 pre ++
      ⟨t, .acc, pre.length, fl pre.length⟩ :: (obsFrom m fl (pre.length + 1) post ++ rest) := by
    simp [obsOf, obsFrom_append, obsFrom, kindOf_acc hp]
  rw [hsplit]
  rcases quiet_then_terminal_cases (n := n) hT (obsFrom m fl 0 pre) (obsFrom m fl (pre.length + 1) post ++ rest)
      ⟨t, .acc, pre.length, fl pre.length⟩ H
      (quiet_inert (obsFrom_quiet m fl 0 pre hpre)) (.inl rfl) (ho.1 (t, p) (by simp)) (obsFrom_le m fl 0 pre t hle) with
    ⟨hn, hle, _⟩ | ⟨k, hk, h1, h2, h3, h⟩
  · exact absurd hle (by rw [callBudget_eq_off] at hb; simp only; omega)
  · exact ⟨k, h1, h2, h3, hk, h⟩

theorem refines_some {T n : Int} (hT : 0 < T) (m : α → Bool) (fl : Nat → Bool) (arr : List (Int × α))
    (ho : Ordered arr) (p : α) (hf : (streamOf arr).find? m = some p) :
    ∃ i t, arr[i]? = some (t, p) ∧ (∀ j q, j < i → arr[j]? = some q → m q.2 = false) ∧
      ∀ (rest : List Obs) (H : Int), (n < 0 ∨ t < callBudget T n) →
        (runObs T n (obsOf m fl arr ++ rest) H).ret = some (t, .resp i) := by
  obtain ⟨pre, t, post, heq, hpre, hp⟩ := find_split m arr p hf
  subst heq
  refine ⟨pre.length, t, by simp, fun j q hj hq => ?_, fun rest H hb => ?_⟩
  · rw [List.getElem?_append_left hj] at hq
    exact hpre q (List.mem_of_getElem? hq)
  · obtain ⟨k, _, _, _, _, h⟩ := refines_split (n := n) hT m fl pre post t p ho hpre hp rest H hb
    rw [h]

theorem refines_none {T n : Int} (hT : 0 < T) (m : α → Bool) (fl : Nat → Bool) (arr : List (Int × α))
    (hf : (streamOf arr).find? m = none) (H : Int) :
    (0 ≤ n → callBudget T n ≤ H →
      runObs T n (obsOf m fl arr) H = ⟨sched T n.toNat, some (callBudget T n, .noResp)⟩) ∧
    (n < 0 → (∀ a ∈ arr, a.1 ≤ H) → 0 ≤ H → (runObs T n (obsOf m fl arr) H).ret = none) := by
  have hq : Quiet (obsOf m fl arr) := obsFrom_quiet m fl 0 arr (find_none m arr hf)
  exact ⟨fun hn hH => times_of_quiet hT hn _ H hq hH,
    fun hn hle h0 => quiet_running hT _ H hq (obsFrom_le m fl 0 arr H hle) h0 (.inl hn)⟩

/-- `ret` is the abstract call's answer on the routed stream `arr`: its first
accepted packet — by position, at its arrival instant — or no packet. -/
def Answers (m : α → Bool) (arr : List (Int × α)) (ret : Option (Int × Outcome)) : Prop :=
  match (streamOf arr).find? m with
  | some p => ∃ i t, arr[i]? = some (t, p) ∧ ret = some (t, .resp i)
  | none => ∀ t i, ret ≠ some (t, .resp i)

theorem Answers.answer_eq {m : α → Bool} {arr : List (Int × α)} {ret : Option (Int × Outcome)} (h : Answers m arr ret)
    (post : List (Int × α)) : answer (arr ++ post) ret = (streamOf arr).find? m := by
  unfold Answers at h
  split at h
  · next p hf =>
    obtain ⟨i, t, hi, rfl⟩ := h
    have hlt : i < arr.length := (List.getElem?_eq_some_iff.1 hi).1
    simp [answer, List.getElem?_append_left hlt, hi, hf]
  · next hf =>
    rw [hf]
    match ret, h with
    | none, _ => rfl
    | some (_, .resp i), h => exact absurd rfl (h _ i)
    | some (_, .noResp), _ | some (_, .ctxErr), _ | some (_, .writeErr), _ => rfl

/-- The routed stream in time order, then ANY observations `rest`: the return is
the stream's answer, provided every arrival lies before the budget and `rest`
cannot make a call that met only the stream's (rejected) packets return a response. -/
theorem answers_of_refines {T n : Int} (hT : 0 < T) (m : α → Bool) (fl : Nat → Bool) (arr : List (Int × α))
    (rest : List Obs) (H : Int) (ho : Ordered arr) (hb : ∀ a ∈ arr, n < 0 ∨ a.1 < callBudget T n)
    (hnone : Quiet (obsOf m fl arr) → ∀ t i, (runObs T n (obsOf m fl arr ++ rest) H).ret ≠ some (t, .resp i)) :
    Answers m arr (runObs T n (obsOf m fl arr ++ rest) H).ret := by
  unfold Answers
  split
  · next p hf =>
    obtain ⟨i, t, hi, _, hrun⟩ := refines_some (n := n) hT m fl arr ho p hf
    exact ⟨i, t, hi, hrun rest H (hb _ (List.mem_of_getElem? hi))⟩
  · next hf => exact hnone (obsFrom_quiet m fl 0 arr (find_none m arr hf))

theorem sendAndRead_refines {T n : Int} (hT : 0 < T) (m : α → Bool) (fl : Nat → Bool) (arr : List (Int × α))
    (H : Int) (ho : Ordered arr) (hb : InBudget T n arr) : Answers m arr (runObs T n (obsOf m fl arr) H).ret := by
  have := answers_of_refines (n := n) hT m fl arr [] H ho (fun a ha => hb.lt ha)
  rw [List.append_nil] at this
  exact this fun hq => noResp_of_quiet_ret (quiet_ret hT _ H hq)

theorem timedCall_eq_find {T n : Int} (hT : 0 < T) (m : α → Bool) (arr : List (Int × α)) (H : Int)
    (ho : Ordered arr) (hb : InBudget T n arr) : timedCall T n m arr H = (streamOf arr).find? m := by
  have := (sendAndRead_refines hT m quiescent arr H ho hb).answer_eq []
  rwa [List.append_nil] at this

def stopOutcome (k : Kind) : Outcome := if k = .ctx then .ctxErr else .noResp

theorem refines_stop_none {T n : Int} (hT : 0 < T) (m : α → Bool) (fl : Nat → Bool) (pre : List (Int × α))
    (c : Int) (k : Kind) (hk : k = .ctx ∨ k = .closed) (tag : Nat) (after : Bool) (rest : List Obs) (H : Int)
    (hc : ∀ a ∈ pre, a.1 ≤ c) (h0 : 0 ≤ c) (hb : n < 0 ∨ c < callBudget T n) (hq : Quiet (obsOf m fl pre)) :
    (runObs T n (obsOf m fl pre ++ ⟨c, k, tag, after⟩ :: rest) H).ret = some (c, stopOutcome k) := by
  rw [quiet_then_terminal_ret (n := n) hT (obsOf m fl pre) rest ⟨c, k, tag, after⟩ H hq
    (by rcases hk with h | h <;> simp [Terminal, h]) h0 (obsFrom_le m fl 0 pre c hc) hb]
  rcases hk with h | h <;> simp [terminalOutcome, stopOutcome, h]

theorem refines_stop {T n : Int} (hT : 0 < T) (m : α → Bool) (fl : Nat → Bool) (pre : List (Int × α))
    (c : Int) (k : Kind) (hk : k = .ctx ∨ k = .closed) (tag : Nat) (after : Bool) (rest : List Obs) (H : Int)
    (ho : Ordered pre) (hc : ∀ a ∈ pre, a.1 ≤ c) (h0 : 0 ≤ c) (hb : n < 0 ∨ c < callBudget T n) :
    Answers m pre (runObs T n (obsOf m fl pre ++ ⟨c, k, tag, after⟩ :: rest) H).ret := by
  refine answers_of_refines hT m fl pre _ H ho (fun a ha => hb.imp_right (Int.lt_of_le_of_lt (hc a ha))) fun hq t i => ?_
  rw [refines_stop_none hT m fl pre c k hk tag after rest H hc h0 hb hq]
  rcases hk with h | h <;> simp [stopOutcome, h]

theorem late_ignored {T n : Int} (hT : 0 < T) (hn : 0 ≤ n) (q late : List Obs) (H : Int) (hq : Quiet q)
    (hl : ∀ o ∈ late, LateObs T n o) (hH : off T n.toNat ≤ H) :
    runObs T n (q ++ late) H = ⟨sched T n.toNat, some (off T n.toNat, .noResp)⟩ :=
  exhausted_of_inert hT hn _ H (fun o ho ht => (List.mem_append.1 ho).elim (quiet_inert hq o · ht) (.inr <| hl o ·)) hH

/-- `hfl`: every late arrival is applied at quiescence, which for one exactly on
the budget means after the last deadline fired. -/
theorem sendAndRead_refines_cut {T n : Int} (hT : 0 < T) (hn : 0 ≤ n) (m : α → Bool) (fl : Nat → Bool)
    (live late : List (Int × α)) (H : Int) (ho : Ordered live) (hb : ∀ a ∈ live, a.1 < callBudget T n)
    (hlate : ∀ a ∈ late, callBudget T n ≤ a.1) (hfl : ∀ i, live.length ≤ i → fl i = true) (hH : callBudget T n ≤ H) :
    Answers m live (runObs T n (obsOf m fl (live ++ late)) H).ret := by
  have hsplit : obsOf m fl (live ++ late) = obsOf m fl live ++ obsFrom m fl live.length late := by
    simp [obsOf, obsFrom_append]
  rw [hsplit]
  refine answers_of_refines hT m fl live _ H ho (fun a ha => .inr (hb a ha)) fun hq t i => ?_
  rw [late_ignored hT hn _ _ H hq ?_ hH]
  · simp
  · intro o hoo
    obtain ⟨j, a, ha, rfl⟩ := mem_obsFrom_idx m fl live.length late o hoo
    have h1 := hlate a (List.mem_of_getElem? ha)
    rw [callBudget_eq_off] at h1
    refine ⟨hn, ?_⟩
    by_cases h : off T n.toNat < a.1
    · exact Or.inl h
    · exact Or.inr ⟨by simp only; omega, hfl (live.length + j) (by omega)⟩

theorem refines_with_irrelevant {T n : Int} (hT : 0 < T) (m : α → Bool) (fl : Nat → Bool) (arr : List (Int × α))
    (obs : List Obs) (H : Int) (ho : OrderedObs obs)
    (hobs : obs.filter (fun o => o.kind != .irr) = obsOf m fl arr) (hb : InBudget T n arr) :
    Answers m arr (runObs T n obs H).ret := by
  have hfind : obs.find? isTerminal = (obsOf m fl arr).find? isTerminal := by
    rw [← hobs, List.find?_filter]
    congr 1
    funext o
    unfold isTerminal
    cases o.kind <;> rfl
  have hnt : ∀ pre, (∀ a ∈ pre, m a.2 = false) → (obsFrom m fl 0 pre).find? isTerminal = none := fun pre hpre => by
    rw [List.find?_eq_none]
    intro o hoo
    simp [(isTerminal_false_iff o).2 (obsFrom_quiet m fl 0 pre hpre o hoo)]
  unfold Answers
  split
  · next p hf =>
    obtain ⟨pre, t, post, heq, hpre, hp⟩ := find_split m arr p hf
    subst heq
    refine ⟨pre.length, t, by simp, ?_⟩
    have hfo : (obsOf m fl (pre ++ (t, p) :: post)).find? isTerminal =
        some ⟨t, kindOf m p, pre.length, fl pre.length⟩ := by
      simp only [obsOf, obsFrom_append, obsFrom, List.find?_append, hnt pre hpre]
      simp [isTerminal, kindOf_acc hp]
    rw [(first_terminal (n := n) hT obs H ho).1 _ (hfind.trans hfo) (hb.lt (a := (t, p)) (by simp))]
    simp [terminalOutcome, kindOf_acc hp]
  · next hf =>
    refine noResp_of_quiet_ret (quiet_ret hT obs H ((first_terminal (n := n) hT obs H ho).2 ?_))
    rw [hfind]
    exact hnt arr (find_none m arr hf)

end Dhcp.Client.Refine

/-
  Layer 2 of the timed model (`runCall`: the SET of results a script of
  external events allows, the function whose output the client4/client6
  correspondence streams compare with the real clients) for scripts that only
  inject datagrams.
-/
namespace Dhcp.Client.Refine
open Dhcp.Client.Timed

theorem groupsAux_flatten (es : List Event) (clk : Int) (i : Nat) (cur : Option (Int × Bool × Group))
    (hc : ∀ c, cur = some c → c.1 = clk) :
    (groupsAux clk i es cur).flatMap viewOf =
      (match cur with | some c => viewOf c | none => []) ++ scriptObsFrom clk i es := by
  fun_induction groupsAux clk i es cur with
  | case1 => simp [scriptObsFrom]
  | case2 => rfl
  | case3 clk i e es fresh t tg r gg hf ih =>
    obtain rfl : tg = clk := hc _ rfl
    have hle : max e.t tg = tg := by simp [fresh] at hf; omega
    rw [ih (by rintro c ⟨⟩; exact hle.symm)]
    simp [viewOf, toObs, scriptObsFrom, t, hle]
  | case4 clk i e es _ t c _ ih =>
    rw [List.flatMap_cons, ih (by rintro c ⟨⟩; rfl)]
    simp [viewOf, toObs, scriptObsFrom, t]
  | case5 clk i e es t ih =>
    rw [ih (by rintro c ⟨⟩; rfl)]
    simp [viewOf, toObs, scriptObsFrom, t]

theorem groups_flatten (evs : List Event) : (groups evs).flatMap viewOf = scriptObs evs := by
  unfold groups scriptObs
  rw [groupsAux_flatten evs 0 0 none (by intro c h; cases h)]
  rfl

theorem scriptObsFrom_lb (clk : Int) (i : Nat) (es : List Event) : ∀ o ∈ scriptObsFrom clk i es, clk ≤ o.t := by
  induction es generalizing clk i with
  | nil => intro o h; simp [scriptObsFrom] at h
  | cons e es ih =>
    intro o h
    simp only [scriptObsFrom, List.mem_cons] at h
    rcases h with rfl | h
    · exact Int.le_max_right _ _
    · have := ih _ _ o h
      have := Int.le_max_right e.t clk
      omega

theorem scriptObsFrom_pairwise (clk : Int) (i : Nat) (es : List Event) :
    (scriptObsFrom clk i es).Pairwise (fun a b => a.t ≤ b.t) := by
  induction es generalizing clk i with
  | nil => simp [scriptObsFrom]
  | cons e es ih =>
    simp only [scriptObsFrom]
    rw [List.pairwise_cons]
    exact ⟨fun o ho => scriptObsFrom_lb _ _ es o ho, ih _ _⟩

theorem scriptObs_ordered (evs : List Event) : OrderedObs (scriptObs evs) :=
  ⟨fun o ho => scriptObsFrom_lb 0 0 evs o ho, scriptObsFrom_pairwise 0 0 evs⟩

theorem scriptObsFrom_scriptFrom {α : Type} (m : α → Bool) (sy : Nat → Bool) (arr : List (Int × α)) (clk : Int)
    (i : Nat) (hlb : ∀ a ∈ arr, clk ≤ a.1) (hs : arr.Pairwise (fun a b => a.1 ≤ b.1)) :
    scriptObsFrom clk i (scriptFrom m sy i arr) = obsFrom m quiescent i arr := by
  induction arr generalizing clk i with
  | nil => rfl
  | cons a arr ih =>
    have h1 : max a.1 clk = a.1 := Int.max_eq_left (hlb a (List.mem_cons_self ..))
    rw [List.pairwise_cons] at hs
    simp only [scriptFrom, scriptObsFrom, obsFrom, h1]
    rw [ih a.1 (i + 1) hs.1 hs.2]
    congr 1
    cases hm : m a.2 <;> simp [kindOf, obsKind, hm, quiescent]

theorem scriptObs_scriptFrom {α : Type} (m : α → Bool) (sy : Nat → Bool) (arr : List (Int × α)) (ho : Ordered arr) :
    scriptObs (scriptFrom m sy 0 arr) = obsOf m quiescent arr :=
  scriptObsFrom_scriptFrom m sy arr 0 0 ho.1 ho.2

theorem scriptObs_scriptOf {α : Type} (m : α → Bool) (arr : List (Int × α)) (ho : Ordered arr) :
    scriptObs (scriptOf m arr) = obsOf m quiescent arr :=
  scriptObs_scriptFrom m quiescent arr ho

theorem mem_scriptFrom {α : Type} (m : α → Bool) (sy : Nat → Bool) (i : Nat) (arr : List (Int × α)) :
    ∀ e ∈ scriptFrom m sy i arr, isArrival e.kind = true ∧ ∃ j, e.sync = sy j := by
  induction arr generalizing i with
  | nil => intro e he; simp [scriptFrom] at he
  | cons a arr ih =>
    intro e he
    simp only [scriptFrom, List.mem_cons] at he
    rcases he with rfl | he
    · exact ⟨by cases m a.2 <;> rfl, i, rfl⟩
    · exact ih (i + 1) e he

theorem scriptFrom_arrivals {α : Type} (m : α → Bool) (sy : Nat → Bool) (i : Nat) (arr : List (Int × α)) :
    ArrivalsOnly (scriptFrom m sy i arr) := fun e he => (mem_scriptFrom m sy i arr e he).1

theorem deadlineAt_off {T n : Int} (hT : 0 < T) (st : CState) (hi : Inv T n True st) (t : Int)
    (h : deadlineAt n st t = true) : ∃ k : Nat, t = off T (k + 1) := by
  unfold deadlineAt at h
  cases st with
  | done txs t' o => simp at h
  | waiting w =>
    simp only at h
    rcases advance_spec hT t false _ w hi.1 (advanceFuel_ok _ _) with ⟨w', hw', g', _, _, _⟩ | ⟨hd, _, _⟩
    · rw [hw'] at h
      simp only [decide_eq_true_eq] at h
      exact ⟨w'.k, by rw [← h, g'.deadline]⟩
    · rw [hd] at h; simp [exhausted] at h

/-- what `groupViews` can yield for a group of arrivals: its quiescent view, or, only for a group that
races (`g.2.1`) with a deadline at `off T (k + 1)`, a `WeakV` weakening of it -/
def ViewOfGroup (T : Int) (g : Int × Bool × Group) (w : List Obs) : Prop :=
  w = viewOf g ∨ (g.2.1 = true ∧ (∃ k : Nat, g.1 = off T (k + 1)) ∧ WeakV w (viewOf g))

inductive Views (T : Int) : List (Int × Bool × Group) → List Obs → Prop
  | nil : Views T [] []
  | cons {g : Int × Bool × Group} {gs : List (Int × Bool × Group)} {w v : List Obs} :
      ViewOfGroup T g w → Views T gs v → Views T (g :: gs) (w ++ v)

theorem views_of_paths {T n : Int} (hT : 0 < T) {st : CState} {gs : List (Int × Bool × Group)} {v : List Obs}
    (h : Paths n st gs v) (hi : Inv T n True st) (harr : ∀ g ∈ gs, ∀ x ∈ g.2.2, isArrival x.2 = true) :
    Views T gs v := by
  induction h with
  | nil => exact .nil
  | @cons st g gs w v hw _ ih =>
    refine .cons ?_ (ih (runFrom_inv hT w _ (fun _ _ _ => .inl trivial) hi) fun g' hg' => harr g' (List.mem_cons_of_mem _ hg'))
    obtain ⟨hv, he⟩ := groupViews_arrivals g.1 _ g.2.2 (harr g (List.mem_cons_self ..)) w hw
    cases hb : (g.2.1 && deadlineAt n st g.1)
    · exact .inl (he hb)
    · rw [Bool.and_eq_true] at hb
      exact .inr ⟨hb.1, deadlineAt_off hT _ hi g.1 hb.2, hv⟩

theorem runCall_views {T n : Int} (hT : 0 < T) (evs : List Event) (H : Int) (harr : ArrivalsOnly evs) (r : Result)
    (h : r ∈ runCall T n evs H) : ∃ v, r = runObs T n v H ∧ Views T (groups evs) v := by
  obtain ⟨v, hp, h⟩ := mem_runCall.1 h
  exact ⟨v, h, views_of_paths hT hp (begin_inv T n True) (groups_arrivals evs harr)⟩

theorem Views.eq_of_noRace {T : Int} {gs : List (Int × Bool × Group)} {v : List Obs} (h : Views T gs v)
    (hn : ∀ g ∈ gs, g.2.1 = false ∨ ∀ k : Nat, g.1 ≠ off T (k + 1)) : v = gs.flatMap viewOf := by
  induction h with
  | nil => rfl
  | @cons g gs w v hg _ ih =>
    rw [List.flatMap_cons, ← ih (fun g' hg' => hn g' (List.mem_cons_of_mem _ hg'))]
    rcases hg with hg | ⟨hr, ⟨k, hk⟩, _⟩
    · rw [hg]
    · rcases hn g (List.mem_cons_self ..) with h' | h'
      · rw [h'] at hr; cases hr
      · exact absurd hk (h' k)

/-- Element by element, with the reason: an observation differs from the
quiescent one only when its instant is a retransmission deadline. -/
inductive WeakD (T : Int) : List Obs → List Obs → Prop
  | nil : WeakD T [] []
  | cons {o o0 : Obs} {v v0 : List Obs} : o.t = o0.t → o.tag = o0.tag →
      (o = o0 ∨ ((o.kind = o0.kind ∨ o.kind = .irr) ∧ ∃ k : Nat, o0.t = off T (k + 1))) →
      WeakD T v v0 → WeakD T (o :: v) (o0 :: v0)

theorem WeakD.refl (T : Int) (v : List Obs) : WeakD T v v := by
  induction v with
  | nil => exact WeakD.nil
  | cons o v ih => exact WeakD.cons rfl rfl (Or.inl rfl) ih

theorem WeakD.append {T : Int} {a a0 b b0 : List Obs} (h1 : WeakD T a a0) (h2 : WeakD T b b0) :
    WeakD T (a ++ b) (a0 ++ b0) := by
  induction h1 with
  | nil => exact h2
  | cons ht hg hk _ ih => exact WeakD.cons ht hg hk ih

theorem WeakV.toD {T : Int} {w w0 : List Obs} (h : WeakV w w0) (hd : ∀ o0 ∈ w0, ∃ k : Nat, o0.t = off T (k + 1)) :
    WeakD T w w0 := by
  induction h with
  | nil => exact WeakD.nil
  | @cons o o0 v v0 ht hg hk _ ih =>
    exact WeakD.cons ht hg (Or.inr ⟨hk, hd o0 (List.mem_cons_self ..)⟩)
      (ih (fun o' ho' => hd o' (List.mem_cons_of_mem _ ho')))

theorem Views.weakD {T : Int} {gs : List (Int × Bool × Group)} {v : List Obs} (h : Views T gs v) :
    WeakD T v (gs.flatMap viewOf) := by
  induction h with
  | nil => exact WeakD.nil
  | @cons g gs w v hg _ ih =>
    rw [List.flatMap_cons]
    refine WeakD.append ?_ ih
    rcases hg with hg | ⟨_, ⟨k, hk⟩, hw⟩
    · rw [hg]; exact WeakD.refl T _
    · refine hw.toD ?_
      intro o0 ho0
      simp only [viewOf, toObs, List.mem_map] at ho0
      obtain ⟨e, _, rfl⟩ := ho0
      exact ⟨k, hk⟩

def WeakO (T : Int) (o o0 : Obs) : Prop :=
  o.t = o0.t ∧ o.tag = o0.tag ∧ (o = o0 ∨ ((o.kind = o0.kind ∨ o.kind = .irr) ∧ ∃ k : Nat, o0.t = off T (k + 1)))

theorem WeakD.getElem? {T : Int} {v v0 : List Obs} (h : WeakD T v v0) (j : Nat) :
    (∀ o, v[j]? = some o → ∃ o0, v0[j]? = some o0 ∧ WeakO T o o0) ∧
    (∀ o0, v0[j]? = some o0 → ∃ o, v[j]? = some o ∧ WeakO T o o0) := by
  induction h generalizing j with
  | nil => simp
  | cons ht hg hk _ ih =>
    cases j with
    | zero =>
      simp only [List.getElem?_cons_zero, Option.some.injEq]
      exact ⟨fun o ho => ⟨_, rfl, ho ▸ ⟨ht, hg, hk⟩⟩, fun o0 ho0 => ⟨_, rfl, ho0 ▸ ⟨ht, hg, hk⟩⟩⟩
    | succ j => simpa using ih j

theorem WeakD.map_t {T : Int} {v v0 : List Obs} (h : WeakD T v v0) : v.map (·.t) = v0.map (·.t) := by
  induction h with
  | nil => rfl
  | cons ht _ _ _ ih => rw [List.map_cons, List.map_cons, ht, ih]

theorem WeakD.ordered {T : Int} {v v0 : List Obs} (h : WeakD T v v0) (ho : OrderedObs v0) : OrderedObs v :=
  (orderedObs_iff v).2 (h.map_t ▸ (orderedObs_iff v0).1 ho)

theorem runCall_weakD {T n : Int} (hT : 0 < T) (evs : List Event) (H : Int) (harr : ArrivalsOnly evs) (r : Result)
    (hr : r ∈ runCall T n evs H) : ∃ v, r = runObs T n v H ∧ WeakD T v (scriptObs evs) ∧ OrderedObs v := by
  obtain ⟨v, hr, hv⟩ := runCall_views hT evs H harr r hr
  have hw := groups_flatten evs ▸ hv.weakD
  exact ⟨v, hr, hw, hw.ordered (scriptObs_ordered evs)⟩

theorem runCall_det {T n : Int} (hT : 0 < T) (evs : List Event) (H : Int) (harr : ArrivalsOnly evs)
    (hn : ∀ g ∈ groups evs, g.2.1 = false ∨ ∀ k : Nat, g.1 ≠ off T (k + 1)) (r : Result)
    (hr : r ∈ runCall T n evs H) : r = runObs T n (scriptObs evs) H := by
  obtain ⟨v, rfl, hv⟩ := runCall_views hT evs H harr r hr
  rw [hv.eq_of_noRace hn, groups_flatten]

theorem WeakD.eq_of_no_deadline {T : Int} {v v0 : List Obs} (h : WeakD T v v0)
    (hn : ∀ o0 ∈ v0, ∀ k : Nat, o0.t ≠ off T (k + 1)) : v = v0 := by
  induction h with
  | nil => rfl
  | @cons o o0 v v0 _ _ hk _ ih =>
    rw [ih (fun x hx => hn x (List.mem_cons_of_mem _ hx))]
    rcases hk with rfl | ⟨_, k, hk⟩
    · rfl
    · exact absurd hk (hn o0 (List.mem_cons_self ..) k)

theorem runCall_no_coincidence {T n : Int} (hT : 0 < T) (evs : List Event) (H : Int) (harr : ArrivalsOnly evs)
    (hn : ∀ o ∈ scriptObs evs, ∀ k : Nat, o.t ≠ off T (k + 1)) (r : Result)
    (hr : r ∈ runCall T n evs H) : r = runObs T n (scriptObs evs) H := by
  obtain ⟨v, rfl, hw, _⟩ := runCall_weakD hT evs H harr r hr
  rw [hw.eq_of_no_deadline hn]

theorem exists_path (n : Int) (gs : List (Int × Bool × Group)) (st : CState)
    (harr : ∀ g ∈ gs, ∀ x ∈ g.2.2, isArrival x.2 = true) : ∃ v, Paths n st gs v := by
  induction gs generalizing st with
  | nil => exact ⟨[], .nil⟩
  | cons g gs ih =>
    -- the quiescent view; for a racing group, the view in which the whole group precedes the deadline
    have hw : toObs g.1 (!(g.2.1 && deadlineAt n st g.1)) g.2.2 ∈ groupViews g.1 (g.2.1 && deadlineAt n st g.1) g.2.2 := by
      unfold groupViews
      rw [mergeOrders_arrivals _ (harr g (List.mem_cons_self ..))]
      cases (g.2.1 && deadlineAt n st g.1)
      · simp
      · simp only [if_true, List.flatMap_cons, List.flatMap_nil, List.append_nil, List.mem_flatMap, List.mem_map,
          List.mem_range]
        exact ⟨g.2.2.length, by omega, 0, by omega, by simp [toObs, lose]⟩
    obtain ⟨v, hv⟩ := ih (runFrom n st _) fun g' hg' => harr g' (List.mem_cons_of_mem _ hg')
    exact ⟨_, .cons hw hv⟩

theorem dedup_all_eq {β : Type} [DecidableEq β] (a : β) (l : List β) (h : ∀ x ∈ l, x = a) (hne : l ≠ []) :
    dedup l = [a] := by
  induction l with
  | nil => exact absurd rfl hne
  | cons b l ih =>
    obtain rfl : b = a := h b (List.mem_cons_self ..)
    show addNew b (dedup l) = [b]
    cases l with
    | nil => simp [dedup, addNew]
    | cons c l =>
      rw [ih (fun x hx => h x (List.mem_cons_of_mem _ hx)) (by simp)]
      simp [addNew]

theorem runCall_singleton {T n : Int} (evs : List Event) (H : Int) (harr : ArrivalsOnly evs) (r0 : Result)
    (hall : ∀ r ∈ runCall T n evs H, r = r0) : runCall T n evs H = [r0] := by
  obtain ⟨v, hv⟩ := exists_path n (groups evs) (begin T n) (groups_arrivals evs harr)
  have hne := List.ne_nil_of_mem (mem_runCall (H := H) |>.2 ⟨v, hv, rfl⟩)
  unfold runCall at hall hne ⊢
  exact dedup_all_eq r0 _ (fun x hx => hall x ((mem_dedup x _).2 hx)) (fun h => hne (by simp only [h]; rfl))

theorem acc_of_terminal {α : Type} {m : α → Bool} {p : α} {o : Obs} (ht : Terminal o)
    (h : o.kind = kindOf m p ∨ o.kind = .irr) : o.kind = .acc ∧ m p = true := by
  rcases h with h | h
  · cases hm : m p
    · exact absurd ht (not_terminal_of_quiet (.inr (h.trans (kindOf_rej hm))))
    · exact ⟨h.trans (kindOf_acc hm), rfl⟩
  · exact absurd ht (not_terminal_of_quiet (.inl h))

theorem runCall_stream {α : Type} {T n : Int} (hT : 0 < T) (m : α → Bool) (sy : Nat → Bool) (arr : List (Int × α))
    (H : Int) (ho : Ordered arr) (r : Result) (hr : r ∈ runCall T n (scriptFrom m sy 0 arr) H) :
    (∀ t i, r.ret = some (t, .resp i) → ∃ p, arr[i]? = some (t, p) ∧ m p = true ∧
      ∀ j q, j < i → arr[j]? = some q → m q.2 = true → ∃ k : Nat, q.1 = T * (2 ^ (k + 1) - 1)) ∧
    ((∀ t i, r.ret ≠ some (t, .resp i)) → ∀ a ∈ arr, m a.2 = true →
      (∃ k : Nat, a.1 = T * (2 ^ (k + 1) - 1)) ∨ (0 ≤ n ∧ callBudget T n ≤ a.1)) := by
  obtain ⟨v, rfl, hw, hov⟩ := runCall_weakD hT _ H (scriptFrom_arrivals m sy 0 arr) r hr
  rw [scriptObs_scriptFrom m sy arr ho] at hw
  -- position `j` of the quiescent sequence is packet `j` of the stream
  have hget : ∀ j, (obsOf m quiescent arr)[j]? = (arr[j]?).map (fun a => (⟨a.1, kindOf m a.2, j, true⟩ : Obs)) :=
    fun j => by simpa [quiescent, obsOf] using obsFrom_getElem? m quiescent 0 arr j
  have hleft : ∀ j (o : Obs), v[j]? = some o →
      ∃ a, arr[j]? = some a ∧ o.t = a.1 ∧ o.tag = j ∧ (o.kind = kindOf m a.2 ∨ o.kind = .irr) := by
    intro j o hj
    obtain ⟨o0, ho0, ht, htag, hrel⟩ := (hw.getElem? j).1 o hj
    rw [hget, Option.map_eq_some_iff] at ho0
    obtain ⟨a, ha, rfl⟩ := ho0
    exact ⟨a, ha, ht, htag, hrel.elim (fun h => .inl (by rw [h])) (·.1)⟩
  -- an accepted packet that did not arrive on a deadline is observed as it is
  have hkeep : ∀ j (a : Int × α), arr[j]? = some a → m a.2 = true → (¬ ∃ k : Nat, a.1 = T * (2 ^ (k + 1) - 1)) →
      v[j]? = some (⟨a.1, .acc, j, true⟩ : Obs) := by
    intro j a ha hm hnd
    obtain ⟨o, ho', _, _, h | ⟨_, hd⟩⟩ := (hw.getElem? j).2 _ (by rw [hget, ha]; rfl)
    · simp [ho', h, kindOf_acc hm]
    · exact absurd hd hnd
  constructor
  · intro t i hret
    obtain ⟨pre, o, post, rfl, hq, hk, rfl, rfl⟩ := resp_first_acc hT v H t i hov hret
    obtain ⟨a, ha, ht, htag, hkind⟩ := hleft pre.length o (by simp)
    rw [htag, ht]
    refine ⟨a.2, ha, (acc_of_terminal (.inl hk) hkind).2, fun j q hj hq' hm => Classical.byContradiction fun hnd => ?_⟩
    have := hkeep j q hq' hm hnd
    rw [List.getElem?_append_left hj] at this
    rcases hq _ (List.mem_of_getElem? this) with h | h <;> cases h
  · intro hno a ha hm
    obtain ⟨j, hj⟩ := List.getElem?_of_mem ha
    refine Classical.byContradiction fun hc => ?_
    rw [not_or] at hc
    refine hc.2 (acc_late_of_no_resp hT v H hov (fun o ho' ht => ?_) hno _ (List.mem_of_getElem? (hkeep j a hj hm hc.1)) rfl)
    obtain ⟨j', hj'⟩ := List.getElem?_of_mem ho'
    obtain ⟨b, _, _, _, hkind⟩ := hleft j' o hj'
    exact (acc_of_terminal ht hkind).1

theorem runCall_scriptOf {α : Type} {T n : Int} (hT : 0 < T) (m : α → Bool) (arr : List (Int × α)) (H : Int)
    (ho : Ordered arr) : runCall T n (scriptOf m arr) H = [runObs T n (obsOf m quiescent arr) H] := by
  have harr : ArrivalsOnly (scriptOf m arr) := scriptFrom_arrivals m quiescent 0 arr
  refine runCall_singleton (scriptOf m arr) H harr _ (fun r hr => ?_)
  rw [runCall_det hT _ H harr (fun g hg =>
    Or.inl (groups_sync _ (fun e he => (mem_scriptFrom m quiescent 0 arr e he).2.elim fun _ h => h) g hg)) r hr,
    scriptObs_scriptOf m arr ho]

theorem runCall_scriptFrom_no_coincidence {α : Type} {T n : Int} (hT : 0 < T) (m : α → Bool) (sy : Nat → Bool)
    (arr : List (Int × α)) (H : Int) (ho : Ordered arr)
    (hnd : ∀ a ∈ arr, ∀ k : Nat, a.1 ≠ T * (2 ^ (k + 1) - 1)) :
    runCall T n (scriptFrom m sy 0 arr) H = [runObs T n (obsOf m quiescent arr) H] := by
  have harr := scriptFrom_arrivals m sy 0 arr
  have hso := scriptObs_scriptFrom m sy arr ho
  refine runCall_singleton _ H harr _ (fun r hr => ?_)
  rw [runCall_no_coincidence hT _ H harr ?_ r hr, hso]
  intro o hoo k
  rw [hso] at hoo
  obtain ⟨a, ha, hta, _⟩ := mem_obsFrom m quiescent 0 arr o hoo
  rw [hta]; exact hnd a ha k

end Dhcp.Client.Refine
