import DhcpProofs.Lemmas.V6BuildIndex
/- Helper lemmas for C16: the second loop of `NewRelayReplFromRelayForw` and the
specified reply `replyOf`. -/
namespace Dhcp.Spec
open Dhcp.V6

/-- the second loop cannot fail: RELAY-REPL is a relay type -/
theorem rebuild_ok (msg : Msg6) : ∀ lvls : List Level, ∃ r, rebuild msg lvls = .ok r := by
  intro lvls
  induction lvls with
  | nil => exact ⟨msg, rfl⟩
  | cons lv rest ih =>
    obtain ⟨m, hm⟩ := ih
    simp only [rebuild, hm, Res.bind, encapsulateRelay_ok _ _ (t := relayReply) rfl, Res.map]
    exact ⟨_, rfl⟩

theorem addOpt?_relay (t h : UInt8) (l p : IP) (os : List Opt6) (a b : Option Opt6) :
    addOpt? (addOpt? (.relay t h l p os) a) b = .relay t h l p (os ++ a.toList ++ b.toList) := by
  cases a <;> cases b <;> simp [addOpt?, Msg6.addOption]

theorem hopsFor_replyOf (msg : Msg6) (hm : msg.isRelay = false) (fl : List RLevel) :
    hopsFor (replyOf msg fl) = UInt8.ofNat fl.length := by
  cases fl with
  | nil =>
    obtain ⟨t, x, os, rfl⟩ := not_isRelay_iff.mp hm
    rfl
  | cons lv rest => simp only [replyOf, hopsFor, List.length_cons]; rw [UInt8.ofNat_succ]

theorem rebuild_levels (msg : Msg6) (hm : msg.isRelay = false) : ∀ fl : List RLevel,
    rebuild msg (fl.map toLevel) = .ok (replyOf msg fl) := by
  intro fl
  induction fl with
  | nil => rfl
  | cons lv rest ih =>
    simp only [List.map_cons, rebuild, ih, Res.bind]
    rw [encapsulateRelay_ok _ _ (by decide)]
    simp only [Res.map, Res.bind, addOpt?_relay, hopsFor_replyOf msg hm, replyOf, toLevel]

theorem replyLevels_length (msg : Msg6) (fl : List RLevel) : (replyLevels msg fl).length = fl.length := by
  induction fl with
  | nil => rfl
  | cons lv rest ih => simp [replyLevels, ih]

theorem replyOf_chain (msg : Msg6) (hm : msg.isRelay = false) : ∀ (rest : List RLevel) (lv : RLevel),
    Chain (replyOf msg (lv :: rest)) (replyLevels msg (lv :: rest)) msg := by
  intro rest
  induction rest with
  | nil =>
    intro lv
    exact Chain.last (by simp [replyOf]) hm
  | cons lv' rest ih =>
    intro lv
    rw [replyOf, replyLevels]
    exact Chain.cons (by simp) (ih lv')

theorem replyLevels_get (msg : Msg6) : ∀ (fl : List RLevel) (i : Nat) (h1 : i < fl.length)
    (h2 : i < (replyLevels msg fl).length),
    (replyLevels msg fl)[i] =
      ⟨relayReply, UInt8.ofNat (fl.length - 1 - i), fl[i].link, fl[i].peer,
        [Opt6.relayMsg (replyOf msg (fl.drop (i + 1)))] ++ (getOne ocInterfaceID fl[i].opts).toList ++
          (getOne ocRemoteID fl[i].opts).toList⟩ := by
  intro fl
  induction fl with
  | nil => intro i h1; simp at h1
  | cons lv rest ih =>
    intro i h1 h2
    cases i with
    | zero => simp [replyLevels]
    | succ i =>
      simp only [replyLevels, List.getElem_cons_succ, List.length_cons, List.drop_succ_cons]
      rw [ih i (by simpa using h1)]
      congr 2
      omega

theorem getOne_echo_iid (x : Opt6) (hx : x.code = ocRelayMsg) (os : List Opt6) :
    getOne ocInterfaceID ([x] ++ (getOne ocInterfaceID os).toList ++ (getOne ocRemoteID os).toList) =
      getOne ocInterfaceID os := by
  rw [getOne_append, getOne_append, getOne_toList_self, getOne_toList_other (by decide)]
  simp [getOne_cons, hx, ocRelayMsg, ocInterfaceID]

theorem getOne_echo_rid (x : Opt6) (hx : x.code = ocRelayMsg) (os : List Opt6) :
    getOne ocRemoteID ([x] ++ (getOne ocInterfaceID os).toList ++ (getOne ocRemoteID os).toList) =
      getOne ocRemoteID os := by
  rw [getOne_append, getOne_append, getOne_toList_self, getOne_toList_other (by decide)]
  simp [getOne_cons, hx, ocRelayMsg, ocRemoteID]

theorem newRelayRepl_eq_collectOf (relay msg : Msg6) (ht : relay.typ = relayForward) :
    newRelayReplFromRelayForw relay msg = (collectOf (msgDepth relay) relay).bind (rebuild msg) := by
  cases relay with
  | msg t x os => rfl
  | relay t h l p os =>
    simp only [Msg6.typ] at ht
    simp [newRelayReplFromRelayForw, ht, collectOf, msgDepth_relay]

end Dhcp.Spec
