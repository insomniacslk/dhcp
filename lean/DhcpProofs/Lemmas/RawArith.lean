import Dhcp.Raw
import Dhcp.Spec.Inet
/-
  Arithmetic of the Internet checksum: the model's uint32 accumulator never
  wraps on buffers shorter than 2^16 bytes, `checksumCombine` folds to the
  representative mod 65535, and the specification's end-around-carry sum has
  the same mod-65535 semantics.
-/
namespace Dhcp.Raw
open Dhcp.Spec.Inet

theorem words_lt : ∀ (bs : Bytes), ∀ w ∈ words bs, w < 65536
  | [], w, h => by simp [words] at h
  | [a], w, h => by
    simp [words] at h; subst h
    have := a.toNat_lt; omega
  | a :: b :: rest, w, h => by
    simp only [words, List.mem_cons] at h
    rcases h with h | h
    · subst h; have := a.toNat_lt; have := b.toNat_lt; omega
    · exact words_lt rest w h

theorem words_append_even : ∀ (a b : Bytes), a.length % 2 = 0 → words (a ++ b) = words a ++ words b
  | [], b, _ => by simp [words]
  | [x], b, h => by simp at h
  | x :: y :: rest, b, h => by
    have h' : rest.length % 2 = 0 := by simp at h; omega
    simp [words, words_append_even rest b h']

theorem wordSum_append_even (a b : Bytes) (h : a.length % 2 = 0) :
    wordSum (a ++ b) = wordSum a + wordSum b := by
  simp [wordSum, words_append_even a b h]

theorem sum_words (bs : Bytes) : (words bs).sum = wordSum bs := rfl

theorem wordSum_cons_cons (a b : UInt8) (r : Bytes) :
    wordSum (a :: b :: r) = a.toNat * 256 + b.toNat + wordSum r := by
  simp [wordSum, words]

theorem wordSum_be16_append (v : Nat) (r : Bytes) : wordSum (be16 v ++ r) = v % 65536 + wordSum r := by
  simp [be16, wordSum_cons_cons]; omega

theorem wordSum_be16 {v : Nat} (h : v < 65536) : wordSum (be16 v) = v := by
  have := wordSum_be16_append v []
  rwa [List.append_nil, Nat.mod_eq_of_lt h, show wordSum [] = 0 from rfl, Nat.add_zero] at this

theorem wordSum_le : ∀ (bs : Bytes), wordSum bs ≤ 65535 * ((bs.length + 1) / 2)
  | [] => by simp [wordSum, words]
  | [a] => by
    simp [wordSum, words]; have := a.toNat_lt; omega
  | a :: b :: rest => by
    have ih := wordSum_le rest
    rw [wordSum_cons_cons, List.length_cons, List.length_cons]
    have := a.toNat_lt; have := b.toNat_lt; omega

/-- Representation invariant of a running one's-complement sum `x` of data
whose integer word sum is `T`: a 16-bit value congruent to `T` mod 65535 that
is zero only when `T` is. -/
def Rep (x T : Nat) : Prop := x < 65536 ∧ x % 65535 = T % 65535 ∧ (x = 0 ↔ T = 0)

theorem Rep.zero : Rep 0 0 := by simp [Rep]

theorem Rep.self {x : Nat} (h : x < 65536) : Rep x x := ⟨h, rfl, Iff.rfl⟩

theorem ocAdd_rep {x T w : Nat} (h : Rep x T) (hw : w < 65536) : Rep (ocAdd x w) (T + w) := by
  obtain ⟨h1, h2, h3⟩ := h
  unfold ocAdd Rep
  split <;> omega

theorem foldl_ocAdd_rep : ∀ (ws : List Nat) (x T : Nat), Rep x T → (∀ w ∈ ws, w < 65536) →
    Rep (ws.foldl ocAdd x) (T + ws.sum)
  | [], x, T, h, _ => by simpa using h
  | w :: ws, x, T, h, hw => by
    have := foldl_ocAdd_rep ws (ocAdd x w) (T + w) (ocAdd_rep h (hw w (by simp)))
      (fun v hv => hw v (by simp [hv]))
    simpa [Nat.add_assoc] using this

theorem ocSumW_rep (ws : List Nat) (hw : ∀ w ∈ ws, w < 65536) : Rep (ocSumW ws) ws.sum := by
  simpa [ocSumW] using foldl_ocAdd_rep ws 0 0 Rep.zero hw

theorem ocSumW_eq_ffff_iff (ws : List Nat) (hw : ∀ w ∈ ws, w < 65536) :
    ocSumW ws = 0xFFFF ↔ 0 < ws.sum ∧ ws.sum % 65535 = 0 := by
  obtain ⟨h1, h2, h3⟩ := ocSumW_rep ws hw
  omega

theorem ocSumW_eq (ws : List Nat) (hw : ∀ w ∈ ws, w < 65536) :
    ocSumW ws = if ws.sum = 0 then 0 else (ws.sum - 1) % 65535 + 1 := by
  obtain ⟨h1, h2, h3⟩ := ocSumW_rep ws hw
  split <;> omega

theorem combine_eq {a b : Nat} (ha : a < 65536) (hb : b < 65536) : checksumCombine a b = ocAdd a b := by
  simp only [checksumCombine, ocAdd, u16, u32]
  split <;> omega

/-- the final `checksumCombine(uint16(v), uint16(v>>16))` of `calculateChecksum` -/
def fold32 (v : Nat) : Nat := checksumCombine (u16 v) (u16 (v / 65536))

theorem fold32_rep (v : Nat) (h : v < 4294967296) : Rep (fold32 v) v := by
  have hb : v / 65536 < 65536 := by omega
  have := ocAdd_rep (Rep.self (show v % 65536 < 65536 by omega)) hb
  rw [fold32, u16, u16, Nat.mod_eq_of_lt hb, combine_eq (by omega) hb]
  unfold Rep at this ⊢
  omega

theorem sumPairs_eq : ∀ (bs : Bytes) (v : Nat), bs.length % 2 = 0 → v + wordSum bs < 4294967296 →
    sumPairs bs v = v + wordSum bs
  | [], v, _, _ => by simp [sumPairs, wordSum, words]
  | [x], v, h, _ => by simp at h
  | a :: b :: rest, v, h, hv => by
    have h' : rest.length % 2 = 0 := by simp at h; omega
    have ha := a.toNat_lt; have hb := b.toNat_lt
    rw [wordSum_cons_cons] at hv ⊢
    have e : u32 (v + u32 (u32 (a.toNat * 256) + b.toNat)) = v + (a.toNat * 256 + b.toNat) := by
      simp only [u32]; omega
    rw [sumPairs, e, sumPairs_eq rest _ h' (by omega)]
    omega

theorem words_take_odd (bs : Bytes) (h : bs.length % 2 = 1) :
    wordSum bs = wordSum (bs.take (bs.length - 1)) + (bs[bs.length - 1]'(by omega)).toNat * 256 := by
  have e : bs.take (bs.length - 1) ++ [bs[bs.length - 1]'(by omega)] = bs := by
    rw [← List.take_succ_eq_append_getElem, List.take_of_length_le (by omega)]
  conv => lhs; rw [← e]
  rw [wordSum_append_even _ _ (by simp; omega)]
  simp [wordSum, words]

theorem calculateChecksum_eq (buf : Bytes) (initial : Nat)
    (h : initial + wordSum buf < 4294967296) :
    calculateChecksum buf initial = fold32 (initial + wordSum buf) := by
  unfold calculateChecksum
  split
  · rename_i hodd
    have hw := words_take_odd buf hodd
    generalize buf[buf.length - 1]'(by omega) = x at hw ⊢
    have := x.toNat_lt
    have e : u32 (initial + u32 (x.toNat * 256)) = initial + x.toNat * 256 := by simp only [u32]; omega
    simp only [e]
    rw [sumPairs_eq _ _ (by simp; omega) (by omega), Nat.add_right_comm, Nat.add_assoc initial, ← hw]
    rfl
  · rw [sumPairs_eq _ _ (by omega) h]
    rfl

theorem no_wrap (buf : Bytes) (x : Nat) (hx : x < 65536) (hl : buf.length ≤ 65536) :
    x + wordSum buf < 4294967296 := by
  have := wordSum_le buf
  have : (buf.length + 1) / 2 ≤ 32768 := by omega
  have : 65535 * ((buf.length + 1) / 2) ≤ 65535 * 32768 := Nat.mul_le_mul_left _ this
  omega

theorem checksum_rep {x T : Nat} (buf : Bytes) (h : Rep x T) (hl : buf.length ≤ 65536) :
    Rep (checksum buf x) (T + wordSum buf) := by
  obtain ⟨h1, h2, h3⟩ := h
  have nw := no_wrap buf x h1 hl
  rw [checksum, show u32 x = x from Nat.mod_eq_of_lt (Nat.lt_trans h1 (by decide)), calculateChecksum_eq buf x nw]
  obtain ⟨f1, f2, f3⟩ := fold32_rep _ nw
  exact ⟨f1, f2.trans (by rw [Nat.add_mod, h2, ← Nat.add_mod]),
    f3.trans (by rw [Nat.add_eq_zero_iff, Nat.add_eq_zero_iff, h3])⟩

theorem checksum_lt (buf : Bytes) (x : Nat) (hx : x < 65536) (hl : buf.length ≤ 65536) :
    checksum buf x < 65536 :=
  (checksum_rep buf (Rep.self hx) hl).1

/-- **What a receiver computes.** Words that add up to `T` plus the complement of a running sum
representing `T`: a positive multiple of 65535, so the one's-complement sum is all ones. -/
theorem Rep.verifies {x T : Nat} (h : Rep x T) {ws : List Nat} (hw : ∀ w ∈ ws, w < 65536)
    (hs : ws.sum = T + compl16 x) : ocSumW ws = 0xFFFF := by
  obtain ⟨h1, h2, h3⟩ := h
  rw [ocSumW_eq_ffff_iff ws hw, hs]
  simp only [compl16, u16]
  omega

/-- The field transmitted for a non-zero sum is never all ones, and is zero exactly when the rest sums
to a multiple of 65535 (where RFC 768 asks for all ones). -/
theorem Rep.compl_field {x T : Nat} (h : Rep x T) (hT : 0 < T) :
    compl16 x ≠ 65535 ∧ (compl16 x = 0 ↔ T % 65535 = 0) := by
  obtain ⟨h1, h2, h3⟩ := h
  simp only [compl16, u16]
  omega

end Dhcp.Raw
