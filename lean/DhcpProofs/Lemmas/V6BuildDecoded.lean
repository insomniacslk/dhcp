import DhcpProofs.Lemmas.V6BuildMsg
namespace Dhcp.V6

/-- closes one branch of `decSimple`: split what is left and read the constructor off -/
local macro "decSimple_finish" h:ident : tactic =>
  `(tactic| (repeat' split at $h:ident) <;> first
    | (have hf := fin_ok_eq $h; subst hf; rfl)
    | (cases $h:ident; rfl)
    | cases $h:ident)

end Dhcp.V6
