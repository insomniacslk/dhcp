import Dhcp.Go.Strings
/- Facts about the `strings.Split` model and slice indexing (C03, ZTP parsers). -/
namespace Dhcp.Str

theorem idx_ok {α} {p : List α} {i : Nat} (h : i < p.length) : idx p i = .ok (p[i]'h) := by
  simp [idx, List.getElem?_eq_getElem h]

theorem idx_ne_panic {α} {p : List α} {i : Nat} (h : i < p.length) : idx p i ≠ .panic := by
  rw [idx_ok h]; simp

theorem idx_bind {α β} {p : List α} {i : Nat} (h : i < p.length) (f : α → Res β) : (idx p i).bind f = f p[i] := by
  rw [idx_ok h]; rfl

theorem pick3_ne_panic {α β} {p : List α} {a b c : Nat} (f : α → α → α → β)
    (ha : a < p.length) (hb : b < p.length) (hc : c < p.length) :
    ((idx p a).bind fun x => (idx p b).bind fun y => (idx p c).bind fun z => Res.ok (f x y z)) ≠ .panic := by
  rw [idx_bind ha, idx_bind hb, idx_bind hc]
  nofun

theorem idx_panic {α} {p : List α} {i : Nat} (h : p.length ≤ i) : idx p i = .panic := by
  simp [idx, List.getElem?_eq_none_iff.mpr h]

/-- `strings.Split` never returns an empty slice (the model `split` covers non-empty separators only;
this lemma holds of `splitGo` for every `sep`) -/
theorem splitGo_length_pos (sep : Bytes) : ∀ (n : Nat) (s cur : Bytes), 1 ≤ (splitGo sep n s cur).length := by
  intro n
  induction n with
  | zero => intro s cur; simp [splitGo]
  | succ n ih =>
    intro s cur
    cases s with
    | nil => simp [splitGo]
    | cons c rest =>
      simp only [splitGo]
      split
      · simp
      · exact ih _ _

theorem split_length_pos (s sep : Bytes) : 1 ≤ (split s sep).length := splitGo_length_pos _ _ _ _

theorem splitGo_two (d : UInt8) : ∀ (s : Bytes) (n : Nat) (cur : Bytes), s.length < n → d ∈ s →
    2 ≤ (splitGo [d] n s cur).length := by
  intro s
  induction s with
  | nil => intro n cur _ h; cases h
  | cons c rest ih =>
    intro n cur hn hd
    cases n with
    | zero => simp at hn
    | succ n =>
      simp only [splitGo]
      split
      · have := splitGo_length_pos [d] n ((c :: rest).drop [d].length) []
        rw [List.length_cons]; omega
      · next hne =>
        have hcd : c ≠ d := by
          intro he; subst he; simp [List.isPrefixOf] at hne
        rcases List.mem_cons.mp hd with rfl | hm
        · exact absurd rfl hcd
        · exact ih n (c :: cur) (by simp only [List.length_cons] at hn; omega) hm

theorem split_two {s : Bytes} {d : UInt8} (h : d ∈ s) : 2 ≤ (split s [d]).length :=
  splitGo_two d s _ _ (Nat.lt_succ_self _) h

theorem split_two_of_hasPrefix {s p : Bytes} {d : UInt8} (hp : hasPrefix s p = true) (hd : d ∈ p) :
    2 ≤ (split s [d]).length := by
  unfold hasPrefix at hp
  obtain ⟨t, rfl⟩ := List.isPrefixOf_iff_prefix.mp hp
  exact split_two (List.mem_append_left _ hd)

end Dhcp.Str
