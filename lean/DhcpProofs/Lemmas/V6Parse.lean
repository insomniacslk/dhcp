import DhcpProofs.Lemmas.V6Leaf
import DhcpProofs.Lemmas.V6NoPanic
/-
  The model of `dhcpv6.FromBytes` / `ParseOption` / `Options.FromBytes` accepts
  exactly the declarative framing grammar of Dhcp/Spec/Wire6.lean
  (`PMsg`/`POpt`/`POpts`), for ALL byte strings: at every fuel `f` exactly the
  derivations nested no deeper than `f` (`decF_iff`), with the fuel the entry points
  pass all of them (`dec6_iff`, `parseOption_iff`, `decOpts_iff`).  Then what the
  grammar gives for free: it is functional, keeps wire order, splits at option
  boundaries (`POpts_split`, `POpts_append_iff`), and is inhabited.
-/
namespace Dhcp.V6
open Dhcp.Spec

theorem tail_err {α : Type} (r : Res (List Opt6)) (l : Lexer) (k : List Opt6 → α) (h : l.err = true)
    (a : α) :
    (match r with
     | .ok os => fin l (k os)
     | .err => .err
     | .panic => .panic) ≠ .ok a := by
  cases r <;> simp [fin_err _ _ h]

theorem tail_ok {α : Type} (r : Res (List Opt6)) (k : List Opt6 → α) :
    (match r with
     | .ok os => fin ⟨[], false⟩ (k os)
     | .err => .err
     | .panic => .panic) = r.map k := by
  cases r <;> simp [fin_ok, Res.map, Res.bind]

theorem tail_inv {α : Type} {r : Res (List Opt6)} {l : Lexer} {k : List Opt6 → α} {a : α}
    (h : (match r with
     | .ok os => fin l (k os)
     | .err => .err
     | .panic => .panic) = .ok a) : ∃ os, r = .ok os ∧ l.err = false ∧ a = k os := by
  have he : l.err = false := by
    cases hb : l.err
    · rfl
    · exact absurd h (tail_err r l k hb a)
  cases r with
  | ok os => exact ⟨os, rfl, he, (fin_spec h).2.2.symm⟩
  | err => cases h
  | panic => cases h

theorem decIA_closed (mk : Bytes → Dur → Dur → List Opt6 → Opt6) (decO : Bytes → Res (List Opt6))
    (iaid sub : Bytes) (s1 s2 : Nat) (hi : iaid.length = 4) (h1 : s1 < 4294967296)
    (h2 : s2 < 4294967296) :
    decIA mk decO (iaid ++ (be32 s1 ++ (be32 s2 ++ sub))) =
      (decO sub).map (mk iaid ((s1 : Int) * second) ((s2 : Int) * second)) := by
  unfold decIA
  simp only [Lexer.new]
  rw [Lexer.readBytes_append iaid _ false hi.symm]
  simp only [decDur_append s1 h1, decDur_append s2 h2, readAll_mk]
  exact tail_ok _ _

theorem decIA_inv (mk : Bytes → Dur → Dur → List Opt6 → Opt6) (decO : Bytes → Res (List Opt6))
    (v : Bytes) (o : Opt6) (h : decIA mk decO v = .ok o) :
    ∃ iaid s1 s2 sub os, v = iaid ++ (be32 s1 ++ (be32 s2 ++ sub)) ∧ iaid.length = 4 ∧
      s1 < 4294967296 ∧ s2 < 4294967296 ∧ decO sub = .ok os ∧
      o = mk iaid ((s1 : Int) * second) ((s2 : Int) * second) os := by
  unfold decIA at h
  dsimp only [Lexer.readAll] at h
  obtain ⟨os, hos, he, ho⟩ := tail_inv h
  dsimp only at he
  obtain ⟨he2, s2, h2, e2, hd2⟩ := decDur_spec he
  obtain ⟨he1, s1, h1, e1, hd1⟩ := decDur_spec he2
  obtain ⟨_, hi, (hd0 : v = _)⟩ := Lexer.readBytes_spec he1
  rw [hd1, hd2] at hd0
  exact ⟨_, s1, s2, _, os, hd0, hi, h1, h2, hos, by rw [ho, e1, e2]⟩

theorem decIATA_closed (decO : Bytes → Res (List Opt6)) (iaid sub : Bytes) (hi : iaid.length = 4) :
    decIATA decO (iaid ++ sub) = (decO sub).map (Opt6.iata iaid) := by
  unfold decIATA
  simp only [Lexer.new]
  rw [Lexer.readBytes_append iaid _ false hi.symm]
  simp only [readAll_mk]
  exact tail_ok _ _

theorem decIATA_inv (decO : Bytes → Res (List Opt6)) (v : Bytes) (o : Opt6)
    (h : decIATA decO v = .ok o) :
    ∃ iaid sub os, v = iaid ++ sub ∧ iaid.length = 4 ∧ decO sub = .ok os ∧ o = .iata iaid os := by
  unfold decIATA at h
  dsimp only [Lexer.readAll] at h
  obtain ⟨os, hos, he, ho⟩ := tail_inv h
  dsimp only at he
  obtain ⟨_, hi, (hd0 : v = _)⟩ := Lexer.readBytes_spec he
  exact ⟨_, _, os, hd0, hi, hos, ho⟩

theorem decIAAddr_closed (decO : Bytes → Res (List Opt6)) (ip sub : Bytes) (s1 s2 : Nat)
    (hi : ip.length = 16) (h1 : s1 < 4294967296) (h2 : s2 < 4294967296) :
    decIAAddr decO (ip ++ (be32 s1 ++ (be32 s2 ++ sub))) =
      (decO sub).map (Opt6.iaaddr (some ip) ((s1 : Int) * second) ((s2 : Int) * second)) := by
  unfold decIAAddr
  simp only [Lexer.new]
  rw [Lexer.copyN_append ip _ false hi.symm]
  simp only [decDur_append s1 h1, decDur_append s2 h2, readAll_mk]
  exact tail_ok _ _

theorem decIAAddr_inv (decO : Bytes → Res (List Opt6)) (v : Bytes) (o : Opt6)
    (h : decIAAddr decO v = .ok o) :
    ∃ ip s1 s2 sub os, v = ip ++ (be32 s1 ++ (be32 s2 ++ sub)) ∧ ip.length = 16 ∧
      s1 < 4294967296 ∧ s2 < 4294967296 ∧ decO sub = .ok os ∧
      o = .iaaddr (some ip) ((s1 : Int) * second) ((s2 : Int) * second) os := by
  unfold decIAAddr at h
  dsimp only [Lexer.readAll] at h
  obtain ⟨os, hos, he, ho⟩ := tail_inv h
  dsimp only at he
  obtain ⟨he2, s2, h2, e2, hd2⟩ := decDur_spec he
  obtain ⟨he1, s1, h1, e1, hd1⟩ := decDur_spec he2
  obtain ⟨_, ip, eip, hi, (hd0 : v = _)⟩ := Lexer.copyN_spec he1
  rw [hd1, hd2] at hd0
  exact ⟨ip, s1, s2, _, os, hd0, hi, h1, h2, hos, by rw [ho, eip, e1, e2]⟩

theorem decIAPrefix_closed (decO : Bytes → Res (List Opt6)) (ip sub : Bytes) (s1 s2 : Nat) (len : UInt8)
    (hi : ip.length = 16) (h1 : s1 < 4294967296) (h2 : s2 < 4294967296) :
    decIAPrefix decO (be32 s1 ++ (be32 s2 ++ (len :: (ip ++ sub)))) =
      if len.toNat > 128 then .err
      else (decO sub).map (Opt6.iaprefix ((s1 : Int) * second) ((s2 : Int) * second)
        (if len = 0 then none else some (len.toNat, some ip))) := by
  unfold decIAPrefix
  simp only [Lexer.new, decDur_append s1 h1, decDur_append s2 h2, Lexer.read8_cons]
  by_cases hg : len.toNat > 128
  · simp only [hg, if_true]
  · simp only [hg, if_false]
    rw [Lexer.copyN_append ip _ false hi.symm]
    simp only [readAll_mk]
    exact tail_ok _ _

theorem decIAPrefix_inv (decO : Bytes → Res (List Opt6)) (v : Bytes) (o : Opt6)
    (h : decIAPrefix decO v = .ok o) :
    ∃ s1 s2 len ip sub os, v = be32 s1 ++ (be32 s2 ++ (len :: (ip ++ sub))) ∧
      s1 < 4294967296 ∧ s2 < 4294967296 ∧ len.toNat ≤ 128 ∧ ip.length = 16 ∧ decO sub = .ok os ∧
      o = .iaprefix ((s1 : Int) * second) ((s2 : Int) * second)
        (if len = 0 then none else some (len.toNat, some ip)) os := by
  unfold decIAPrefix at h
  dsimp only [Lexer.readAll] at h
  replace ⟨hg, h⟩ := Res.ite_err_eq_ok h
  obtain ⟨os, hos, he, ho⟩ := tail_inv h
  dsimp only at he
  obtain ⟨he3, ip, eip, hi, hd3⟩ := Lexer.copyN_spec he
  obtain ⟨he2, hd2⟩ := Lexer.read8_spec he3
  obtain ⟨he1, s2, h2, e2, hd1⟩ := decDur_spec he2
  obtain ⟨_, s1, h1, e1, (hd0 : v = _)⟩ := decDur_spec he1
  rw [hd1, hd2, hd3] at hd0
  rw [eip, e1, e2] at ho
  generalize (decDur (decDur (Lexer.new v)).2).2.read8 = r8 at *
  generalize (r8.2.copyN 16).2 = l5 at *
  exact ⟨s1, s2, r8.1, ip, l5.data, os, hd0, h1, h2, by omega, hi, hos, ho⟩

theorem decMsgF_msg (f : Nat) (t : UInt8) (xid rest : Bytes) (ht : isRelayType t = false)
    (hx : xid.length = 3) :
    decMsgF (f + 1) (t :: (xid ++ rest)) = (decOptsF f rest).map (Msg6.msg t xid) := by
  simp only [decMsgF, Lexer.new, Lexer.read8_cons, Lexer.error, Bool.false_eq_true, if_false, ht]
  rw [Lexer.readBytes_append xid _ false hx.symm]
  simp only [Bool.false_eq_true, if_false]

theorem decMsgF_relay (f : Nat) (t h : UInt8) (link peer rest : Bytes) (ht : isRelayType t = true)
    (hl : link.length = 16) (hp : peer.length = 16) :
    decMsgF (f + 1) (t :: h :: (link ++ (peer ++ rest))) =
      (decOptsF f rest).map (Msg6.relay t h (some link) (some peer)) := by
  simp only [decMsgF, Lexer.new, Lexer.read8_cons, Lexer.error, Bool.false_eq_true, if_false, ht,
    if_true]
  rw [Lexer.copyN_append link _ false hl.symm]
  simp only
  rw [Lexer.copyN_append peer _ false hp.symm]
  simp only [Bool.false_eq_true, if_false]

theorem decMsgF_inv (f : Nat) (b : Bytes) (m : Msg6) (h : decMsgF (f + 1) b = .ok m) :
    (∃ t xid rest os, b = t :: (xid ++ rest) ∧ isRelayType t = false ∧ xid.length = 3 ∧
      decOptsF f rest = .ok os ∧ m = .msg t xid os) ∨
    (∃ t hops link peer rest os, b = t :: hops :: (link ++ (peer ++ rest)) ∧ isRelayType t = true ∧
      link.length = 16 ∧ peer.length = 16 ∧ decOptsF f rest = .ok os ∧
      m = .relay t hops (some link) (some peer) os) := by
  unfold decMsgF at h
  dsimp only at h
  obtain ⟨he1, h⟩ := Res.ite_err_eq_ok h
  obtain ⟨_, (hd0 : b = _)⟩ := Lexer.read8_spec (l := Lexer.new b) (Bool.eq_false_iff.mpr he1)
  by_cases ht : isRelayType (Lexer.new b).read8.1 = true
  · rw [if_pos ht] at h
    obtain ⟨he4, h⟩ := Res.ite_err_eq_ok h
    obtain ⟨os, hos, rfl⟩ := Res.map_eq_ok h
    obtain ⟨he3, peer, ep, hp, hd3⟩ := Lexer.copyN_spec (Bool.eq_false_iff.mpr he4)
    obtain ⟨he2, link, el, hl, hd2⟩ := Lexer.copyN_spec he3
    obtain ⟨_, hd1⟩ := Lexer.read8_spec he2
    rw [hd1, hd2, hd3] at hd0
    exact .inr ⟨_, _, link, peer, _, os, hd0, ht, hl, hp, hos, by rw [el, ep]⟩
  · rw [if_neg ht] at h
    obtain ⟨he2, h⟩ := Res.ite_err_eq_ok h
    obtain ⟨os, hos, rfl⟩ := Res.map_eq_ok h
    obtain ⟨_, hx, hd1⟩ := Lexer.readBytes_spec (Bool.eq_false_iff.mpr he2)
    rw [hd1] at hd0
    exact .inl ⟨_, _, _, os, hd0, Bool.eq_false_iff.mpr ht, hx, hos, rfl⟩
local macro "shape_branch" h:ident : tactic =>
  `(tactic| (try simp only [] at $h:ident
             try split at $h:ident
             all_goals first
               | exact shape_fin $h (by simp [Shape, isSimple, Opt6.code])
               | exact shape_ok $h (by simp [Shape, isSimple, Opt6.code])
               | (simp at $h:ident; done)))

theorem parseOpt_1 (f : Nat) (d : Bytes) : parseOpt (f + 1) 1 d = (decDUID d).map .clientID := by
  simp [parseOpt]
theorem parseOpt_2 (f : Nat) (d : Bytes) : parseOpt (f + 1) 2 d = (decDUID d).map .serverID := by
  simp [parseOpt]
theorem parseOpt_3 (f : Nat) (d : Bytes) :
    parseOpt (f + 1) 3 d = decIA .iana (fun x => decOptsF f x) d := by simp [parseOpt]
theorem parseOpt_4 (f : Nat) (d : Bytes) :
    parseOpt (f + 1) 4 d = decIATA (fun x => decOptsF f x) d := by simp [parseOpt]
theorem parseOpt_5 (f : Nat) (d : Bytes) :
    parseOpt (f + 1) 5 d = decIAAddr (fun x => decOptsF f x) d := by simp [parseOpt]
theorem parseOpt_9 (f : Nat) (d : Bytes) : parseOpt (f + 1) 9 d = (decMsgF f d).map .relayMsg := by
  simp [parseOpt]
theorem parseOpt_25 (f : Nat) (d : Bytes) :
    parseOpt (f + 1) 25 d = decIA .iapd (fun x => decOptsF f x) d := by simp [parseOpt]
theorem parseOpt_26 (f : Nat) (d : Bytes) :
    parseOpt (f + 1) 26 d = decIAPrefix (fun x => decOptsF f x) d := by simp [parseOpt]
theorem parseOpt_97 (f : Nat) (d : Bytes) : parseOpt (f + 1) 97 d = (decOptsF f d).map .fourRD := by
  simp [parseOpt]

theorem parseOpt_leaf (f c : Nat) (d : Bytes) (h : c ∉ containerCodes) :
    parseOpt (f + 1) c d = decSimple c d := by
  simp only [containerCodes, List.mem_cons, List.mem_nil_iff, or_false, not_or] at h
  obtain ⟨h1, h2, h3, h4, h5, h9, h25, h26, h97⟩ := h
  simp only [parseOpt, h1, h2, h3, h4, h5, h9, h25, h26, h97, if_false]

theorem POpts_of_Tiles {d : Bytes} {os : List Opt6} (h : Tiles POpt d os) : POpts d os := by
  induction h with
  | nil => exact .nil
  | cons hc hv hp _ ih => exact .cons hc hv hp ih

theorem Tiles_of_POpts : {d : Bytes} → {os : List Opt6} → POpts d os → Tiles POpt d os
  | _, _, .nil => .nil
  | _, _, .cons hc hv hp hs => .cons hc hv hp (Tiles_of_POpts hs)

theorem POpts_iff_Tiles (d : Bytes) (os : List Opt6) : POpts d os ↔ Tiles POpt d os :=
  ⟨Tiles_of_POpts, POpts_of_Tiles⟩

theorem fuelOpts_le_iff {os : List Opt6} {f : Nat} : fuelOpts os ≤ f ↔ ∀ o ∈ os, fuelOpt o ≤ f := by
  induction os with
  | nil => simp [fuelOpts]
  | cons o os ih => simp only [fuelOpts, Nat.max_le, ih, List.forall_mem_cons]

theorem parseOpt_sound_step (f : Nat)
    (ihOs : ∀ d os, decOptsF f d = .ok os → POpts d os ∧ fuelOpts os + 1 ≤ f)
    (ihM : ∀ b m, decMsgF f b = .ok m → PMsg b m ∧ fuelMsg m ≤ f) (c : Nat) (v : Bytes) (o : Opt6)
    (h : parseOpt (f + 1) c v = .ok o) : POpt c v o ∧ fuelOpt o ≤ f + 1 := by
  by_cases hc : c ∈ containerCodes
  · simp only [containerCodes, List.mem_cons, List.mem_nil_iff, or_false] at hc
    rcases hc with rfl | rfl | rfl | rfl | rfl | rfl | rfl | rfl | rfl
    · rw [parseOpt_1] at h
      obtain ⟨d, hd, rfl⟩ := Res.map_eq_ok h
      exact ⟨.clientID hd, by simp [fuelOpt]⟩
    · rw [parseOpt_2] at h
      obtain ⟨d, hd, rfl⟩ := Res.map_eq_ok h
      exact ⟨.serverID hd, by simp [fuelOpt]⟩
    · rw [parseOpt_3] at h
      obtain ⟨iaid, s1, s2, sub, os, rfl, hi, hs1, hs2, hos, rfl⟩ := decIA_inv _ _ _ _ h
      exact ⟨.iana hi hs1 hs2 (ihOs _ _ hos).1, Nat.succ_le_succ (ihOs _ _ hos).2⟩
    · rw [parseOpt_4] at h
      obtain ⟨iaid, sub, os, rfl, hi, hos, rfl⟩ := decIATA_inv _ _ _ h
      exact ⟨.iata hi (ihOs _ _ hos).1, Nat.succ_le_succ (ihOs _ _ hos).2⟩
    · rw [parseOpt_5] at h
      obtain ⟨ip, s1, s2, sub, os, rfl, hi, hs1, hs2, hos, rfl⟩ := decIAAddr_inv _ _ _ h
      exact ⟨.iaaddr hi hs1 hs2 (ihOs _ _ hos).1, Nat.succ_le_succ (ihOs _ _ hos).2⟩
    · rw [parseOpt_9] at h
      obtain ⟨m, hm, rfl⟩ := Res.map_eq_ok h
      exact ⟨.relayMsg (ihM _ _ hm).1, Nat.succ_le_succ (ihM _ _ hm).2⟩
    · rw [parseOpt_25] at h
      obtain ⟨iaid, s1, s2, sub, os, rfl, hi, hs1, hs2, hos, rfl⟩ := decIA_inv _ _ _ _ h
      exact ⟨.iapd hi hs1 hs2 (ihOs _ _ hos).1, Nat.succ_le_succ (ihOs _ _ hos).2⟩
    · rw [parseOpt_26] at h
      obtain ⟨s1, s2, len, ip, sub, os, rfl, hs1, hs2, hlen, hi, hos, rfl⟩ := decIAPrefix_inv _ _ _ h
      exact ⟨.iaprefix hs1 hs2 hlen hi (ihOs _ _ hos).1, Nat.succ_le_succ (ihOs _ _ hos).2⟩
    · rw [parseOpt_97] at h
      obtain ⟨os, hos, rfl⟩ := Res.map_eq_ok h
      exact ⟨.fourRD (ihOs _ _ hos).1, Nat.succ_le_succ (ihOs _ _ hos).2⟩
  · rw [parseOpt_leaf f c v hc] at h
    exact ⟨.leaf hc h, by rw [(decSimple_sound _ _ _ hc h).fuelOpt_eq]; omega⟩

theorem decMsgF_sound_step (f : Nat)
    (ihOs : ∀ d os, decOptsF f d = .ok os → POpts d os ∧ fuelOpts os + 1 ≤ f)
    (b : Bytes) (m : Msg6) (h : decMsgF (f + 1) b = .ok m) : PMsg b m ∧ fuelMsg m ≤ f + 1 := by
  rcases decMsgF_inv f b m h with ⟨t, xid, rest, os, rfl, ht, hx, hos, rfl⟩ |
    ⟨t, hops, link, peer, rest, os, rfl, ht, hl, hp, hos, rfl⟩
  · exact ⟨.msg ht hx (ihOs _ _ hos).1, Nat.succ_le_succ (ihOs _ _ hos).2⟩
  · exact ⟨.relay ht hl hp (ihOs _ _ hos).1, Nat.succ_le_succ (ihOs _ _ hos).2⟩

theorem dec_sound : ∀ f,
    (∀ c v o, parseOpt f c v = .ok o → POpt c v o ∧ fuelOpt o ≤ f) ∧
    (∀ d os, decOptsF f d = .ok os → POpts d os ∧ fuelOpts os + 1 ≤ f) ∧
    (∀ b m, decMsgF f b = .ok m → PMsg b m ∧ fuelMsg m ≤ f) := by
  intro f
  induction f with
  | zero =>
    refine ⟨?_, ?_, ?_⟩
    · intro c v o h; simp [parseOpt] at h
    · intro d os h; simp [decOptsF] at h
    · intro b m h; simp [decMsgF] at h
  | succ f ih =>
    obtain ⟨ihO, ihOs, ihM⟩ := ih
    refine ⟨parseOpt_sound_step f ihOs ihM, ?_, decMsgF_sound_step f ihOs⟩
    intro d os h
    simp only [decOptsF] at h
    have ht := Tiles_and_iff.mp (optionsFromBytes_sound _ _ ihO d os h)
    exact ⟨POpts_of_Tiles ht.1, Nat.succ_le_succ (fuelOpts_le_iff.mpr ht.2)⟩

theorem fuelOpt_pos (o : Opt6) : 1 ≤ fuelOpt o := by
  cases o <;> simp [fuelOpt]

theorem fuelMsg_pos (m : Msg6) : 2 ≤ fuelMsg m := by
  cases m <;> simp [fuelMsg]

theorem dec_complete_fuel : ∀ f,
    (∀ c v o, POpt c v o → fuelOpt o ≤ f → parseOpt f c v = .ok o) ∧
    (∀ d os, POpts d os → fuelOpts os + 1 ≤ f → decOptsF f d = .ok os) ∧
    (∀ b m, PMsg b m → fuelMsg m ≤ f → decMsgF f b = .ok m) := by
  intro f
  induction f with
  | zero =>
    refine ⟨?_, ?_, ?_⟩
    · intro c v o _ hf; have := fuelOpt_pos o; omega
    · intro d os _ hf; omega
    · intro b m _ hf; have := fuelMsg_pos m; omega
  | succ f ih =>
    obtain ⟨ihO, ihOs, ihM⟩ := ih
    refine ⟨?_, ?_, ?_⟩
    · intro c v o h hf
      cases h with
      | leaf hc hd => rw [parseOpt_leaf f _ _ hc]; exact hd
      | clientID hd => rw [parseOpt_1, hd]; rfl
      | serverID hd => rw [parseOpt_2, hd]; rfl
      | iana hi h1 h2 hos =>
        rw [parseOpt_3, decIA_closed _ _ _ _ _ _ hi h1 h2, ihOs _ _ hos (Nat.le_of_succ_le_succ hf)]; rfl
      | iata hi hos =>
        rw [parseOpt_4, decIATA_closed _ _ _ hi, ihOs _ _ hos (Nat.le_of_succ_le_succ hf)]; rfl
      | iaaddr hi h1 h2 hos =>
        rw [parseOpt_5, decIAAddr_closed _ _ _ _ _ hi h1 h2, ihOs _ _ hos (Nat.le_of_succ_le_succ hf)]; rfl
      | relayMsg hm =>
        rw [parseOpt_9, ihM _ _ hm (Nat.le_of_succ_le_succ hf)]; rfl
      | iapd hi h1 h2 hos =>
        rw [parseOpt_25, decIA_closed _ _ _ _ _ _ hi h1 h2, ihOs _ _ hos (Nat.le_of_succ_le_succ hf)]; rfl
      | iaprefix h1 h2 hlen hi hos =>
        rw [parseOpt_26, decIAPrefix_closed _ _ _ _ _ _ hi h1 h2, if_neg (by omega),
          ihOs _ _ hos (Nat.le_of_succ_le_succ hf)]; rfl
      | fourRD hos =>
        rw [parseOpt_97, ihOs _ _ hos (Nat.le_of_succ_le_succ hf)]; rfl
    · intro d os h hf
      simp only [decOptsF]
      have ht := Tiles_and_iff.mpr ⟨Tiles_of_POpts h, fuelOpts_le_iff.mp (Nat.le_of_succ_le_succ hf)⟩
      exact optionsFromBytes_complete _ _ (fun c v o hp => ihO c v o hp.1 hp.2) d os ht
    · intro b m h hf
      cases h with
      | msg ht hx hos =>
        rw [decMsgF_msg f _ _ _ ht hx, ihOs _ _ hos (Nat.le_of_succ_le_succ hf)]; rfl
      | relay ht hl hp hos =>
        rw [decMsgF_relay f _ _ _ _ _ ht hl hp, ihOs _ _ hos (Nat.le_of_succ_le_succ hf)]; rfl

theorem decF_iff (f : Nat) :
    (∀ c v o, parseOpt f c v = .ok o ↔ POpt c v o ∧ fuelOpt o ≤ f) ∧
    (∀ d os, decOptsF f d = .ok os ↔ POpts d os ∧ fuelOpts os + 1 ≤ f) ∧
    (∀ b m, decMsgF f b = .ok m ↔ PMsg b m ∧ fuelMsg m ≤ f) :=
  ⟨fun c v o => ⟨(dec_sound f).1 c v o, fun h => (dec_complete_fuel f).1 c v o h.1 h.2⟩,
   fun d os => ⟨(dec_sound f).2.1 d os, fun h => (dec_complete_fuel f).2.1 d os h.1 h.2⟩,
   fun b m => ⟨(dec_sound f).2.2 b m, fun h => (dec_complete_fuel f).2.2 b m h.1 h.2⟩⟩

mutual
theorem fuel_bound_opt {c : Nat} {v : Bytes} {o : Opt6} (h : POpt c v o) : fuelOpt o ≤ v.length + 2 := by
  cases h with
  | leaf hc hd => rw [(decSimple_sound _ _ _ hc hd).fuelOpt_eq]; omega
  | clientID | serverID => exact Nat.le_add_left 1 _
  | iana _ _ _ h | iata _ h | iaaddr _ _ _ h | iapd _ _ _ h | iaprefix _ _ _ _ h | fourRD h =>
    have := fuel_bound_opts h; simp [fuelOpt]; omega
  | relayMsg h => have := fuel_bound_msg h; simp [fuelOpt]; omega
theorem fuel_bound_opts {d : Bytes} {os : List Opt6} (h : POpts d os) : fuelOpts os ≤ d.length := by
  cases h with
  | nil => exact Nat.le_refl _
  | cons _ _ h hs =>
    have := fuel_bound_opt h; have := fuel_bound_opts hs; simp [fuelOpts, tlv_length]; omega
theorem fuel_bound_msg {b : Bytes} {m : Msg6} (h : PMsg b m) : fuelMsg m ≤ b.length := by
  cases h with
  | msg _ hx h => have := fuel_bound_opts h; simp [fuelMsg, hx]; omega
  | relay _ h1 h2 h => have := fuel_bound_opts h; simp [fuelMsg, h1, h2]; omega
end

/-- every nesting level costs at least a 4-byte option header -/
theorem fuel_bound {c : Nat} {v d b : Bytes} {o : Opt6} {os : List Opt6} {m : Msg6} :
    (POpt c v o → fuelOpt o ≤ v.length + 2) ∧ (POpts d os → fuelOpts os ≤ d.length) ∧
    (PMsg b m → fuelMsg m ≤ b.length) :=
  ⟨fuel_bound_opt, fuel_bound_opts, fuel_bound_msg⟩

theorem decMsgF_iff {f : Nat} {b : Bytes} {m : Msg6} (hf : fuelFor b ≤ f) :
    decMsgF f b = .ok m ↔ PMsg b m := by
  rw [(decF_iff f).2.2]
  exact ⟨And.left, fun h => ⟨h, by have := fuel_bound_msg h; unfold fuelFor at hf; omega⟩⟩

theorem parseOpt_iff {f c : Nat} {v : Bytes} {o : Opt6} (hf : fuelFor v ≤ f) :
    parseOpt f c v = .ok o ↔ POpt c v o := by
  rw [(decF_iff f).1]
  exact ⟨And.left, fun h => ⟨h, by have := fuel_bound_opt h; unfold fuelFor at hf; omega⟩⟩

theorem decOptsF_iff {f : Nat} {d : Bytes} {os : List Opt6} (hf : fuelFor d ≤ f) :
    decOptsF f d = .ok os ↔ POpts d os := by
  rw [(decF_iff f).2.1]
  exact ⟨And.left, fun h => ⟨h, by have := fuel_bound_opts h; unfold fuelFor at hf; omega⟩⟩

theorem dec6_iff (b : Bytes) (m : Msg6) : dec6 b = .ok m ↔ PMsg b m :=
  decMsgF_iff (Nat.le_refl _)

theorem parseOption_iff (code : Nat) (data : Bytes) (o : Opt6) :
    parseOption code data = .ok o ↔ POpt code data o :=
  parseOpt_iff (Nat.le_refl _)

theorem decOpts_iff (data : Bytes) (os : List Opt6) : decOpts data = .ok os ↔ POpts data os :=
  decOptsF_iff (Nat.le_refl _)

theorem tail_ne_panic {α : Type} (r : Res (List Opt6)) (l : Lexer) (k : List Opt6 → α)
    (h : r ≠ .panic) :
    (match r with
     | .ok os => fin l (k os)
     | .err => .err
     | .panic => .panic) ≠ .panic :=
  optsTail_ne_panic h

theorem POpt_functional {c : Nat} {v : Bytes} {o o' : Opt6} (h : POpt c v o) (h' : POpt c v o') :
    o = o' :=
  Res.ok.inj (((parseOption_iff c v o).mpr h).symm.trans ((parseOption_iff c v o').mpr h'))

theorem POpts_functional {d : Bytes} {os os' : List Opt6} (h : POpts d os) (h' : POpts d os') :
    os = os' :=
  Res.ok.inj (((decOpts_iff d os).mpr h).symm.trans ((decOpts_iff d os').mpr h'))

theorem PMsg_functional {b : Bytes} {m m' : Msg6} (h : PMsg b m) (h' : PMsg b m') : m = m' :=
  Res.ok.inj (((dec6_iff b m).mpr h).symm.trans ((dec6_iff b m').mpr h'))

theorem POpt_code {c : Nat} {v : Bytes} {o : Opt6} (h : POpt c v o) : o.code = c := by
  cases h with
  | leaf hc hd => exact (decSimple_sound _ _ _ hc hd).code_eq
  | _ => rfl

theorem generic_verbatim {c c' : Nat} {v d : Bytes} (h : POpt c v (.generic c' d)) :
    c' = c ∧ d = v ∧ c ∉ knownCodes := by
  cases h with
  | leaf hc hd => exact (decSimple_sound _ _ _ hc hd).generic_inv

theorem generic_accepted {c : Nat} (v : Bytes) (h : c ∉ knownCodes) : POpt c v (.generic c v) :=
  .leaf (fun hc => h (containerCodes_known hc)) (decSimple_generic c v h)

theorem generic_iff (c : Nat) (v : Bytes) : c ∉ knownCodes ↔ POpt c v (.generic c v) :=
  ⟨generic_accepted v, fun h => (generic_verbatim h).2.2⟩

theorem wireCodesN_nil (n : Nat) : wireCodesN n [] = [] := by
  cases n <;> rfl

theorem wireCodesN_tlv (n code : Nat) (v rest : Bytes) (hc : code < 65536) (hv : v.length < 65536) :
    wireCodesN (n + 1) (tlv code v ++ rest) = code :: wireCodesN n rest := by
  have e : tlv code v ++ rest =
      UInt8.ofNat (code / 256) :: UInt8.ofNat code :: UInt8.ofNat (v.length / 256) ::
        UInt8.ofNat v.length :: (v ++ rest) := by
    simp [tlv, be16]
  have h1 : beNat [UInt8.ofNat (code / 256), UInt8.ofNat code] = code := beNat_be16 hc
  have h2 : beNat [UInt8.ofNat (v.length / 256), UInt8.ofNat v.length] = v.length := beNat_be16 hv
  rw [e]
  simp only [wireCodesN, h1, h2, List.drop_left']

theorem Tiles_codes {α : Type} {P : Nat → Bytes → α → Prop} (code : α → Nat)
    (hP : ∀ c v o, P c v o → code o = c) {d : Bytes} {os : List α} (h : Tiles P d os) :
    ∀ n, d.length ≤ n → wireCodesN n d = os.map code := by
  induction h with
  | nil => intro n _; simp [wireCodesN_nil]
  | @cons c v rest o os hc hv hp _ ih =>
    intro n hn
    cases n with
    | zero => simp [tlv_length] at hn
    | succ n =>
      rw [wireCodesN_tlv n c v rest hc hv, ih n (by simp [tlv_length] at hn; omega)]
      simp [hP _ _ _ hp]

theorem POpts_codes {d : Bytes} {os : List Opt6} (h : POpts d os) : os.map Opt6.code = wireCodes d :=
  (Tiles_codes Opt6.code (fun _ _ _ hp => POpt_code hp) (Tiles_of_POpts h) _ (Nat.le_refl _)).symm

theorem POpts_append {d1 d2 : Bytes} {os1 os2 : List Opt6} (h1 : POpts d1 os1) (h2 : POpts d2 os2) :
    POpts (d1 ++ d2) (os1 ++ os2) :=
  POpts_of_Tiles (Tiles_append (Tiles_of_POpts h1) (Tiles_of_POpts h2))

theorem POpts_cons_iff {c : Nat} {v rest : Bytes} {o : Opt6} {os : List Opt6} (hc : c < 65536)
    (hv : v.length < 65536) :
    POpts (tlv c v ++ rest) (o :: os) ↔ POpt c v o ∧ POpts rest os := by
  rw [POpts_iff_Tiles, POpts_iff_Tiles, Tiles_cons_iff hc hv]

theorem POpts_split {d1 d2 : Bytes} {os1 os : List Opt6} (h1 : POpts d1 os1)
    (h : POpts (d1 ++ d2) os) : ∃ os2, os = os1 ++ os2 ∧ POpts d2 os2 := by
  obtain ⟨os2, e, h2⟩ := Tiles_split (P := POpt) (fun _ _ _ _ hp hp' => POpt_functional hp hp') (Tiles_of_POpts h1)
    (Tiles_of_POpts h)
  exact ⟨os2, e, POpts_of_Tiles h2⟩

theorem POpts_append_iff {d1 d2 : Bytes} {os1 : List Opt6} (h1 : POpts d1 os1) (os : List Opt6) :
    POpts (d1 ++ d2) os ↔ ∃ os2, os = os1 ++ os2 ∧ POpts d2 os2 :=
  ⟨POpts_split h1, fun ⟨_, e, h2⟩ => e ▸ POpts_append h1 h2⟩

/-- a SOLICIT header followed by an IA_NA (code 3, 12-byte value, no sub-options) -/
example : PMsg ([1, 0xaa, 0xbb, 0xcc] ++ tlv 3 ([0, 0, 0, 1] ++ (be32 3600 ++ (be32 5400 ++ []))))
    (.msg 1 [0xaa, 0xbb, 0xcc] [.iana [0, 0, 0, 1] (3600 * second) (5400 * second) []]) :=
  .msg (t := 1) (xid := [0xaa, 0xbb, 0xcc]) rfl rfl
    (POpts_append (d2 := []) (os2 := [])
      (.cons (rest := []) (by decide) (by decide)
        (.iana (iaid := [0, 0, 0, 1]) (s1 := 3600) (s2 := 5400) rfl (by decide) (by decide) .nil) .nil)
      .nil)

end Dhcp.V6
