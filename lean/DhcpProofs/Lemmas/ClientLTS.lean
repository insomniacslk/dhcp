import Dhcp.Client.LTS
/-
  The interleaving model of the clients (C10, C11 part 2): lookups in the finite
  maps, `step` as a relation (`Step`, with the branches that raise a fault or hand
  a nil packet on kept apart as `Bad`; `step_sound`), the program-counter classes
  the invariants are stated with, and invariants 1-3 (`MutexInv`, `WF`, `CInv`)
  with their preservation by every step.
-/
namespace Dhcp.Client.LTS

namespace FMap
variable {β : Type}

theorem getL_insL (k k' : Nat) (v : β) (l : List (Nat × β)) :
    getL k' (insL k v l) = if k' = k then some v else getL k' l := by
  induction l with
  | nil => simp [insL, getL]
  | cons hd t ih =>
    obtain ⟨k'', v''⟩ := hd
    unfold insL
    by_cases h1 : k < k''
    · simp [h1, getL]
    · by_cases h2 : k = k''
      · subst h2
        simp [getL]
        by_cases h3 : k' = k <;> simp [h3]
      · simp only [h1, h2, if_false, getL, ih]
        by_cases h3 : k' = k''
        · subst h3
          have : ¬ k' = k := fun h => h2 h.symm
          simp [this]
        · simp [h3]

theorem getL_delL (k k' : Nat) (l : List (Nat × β)) :
    getL k' (delL k l) = if k' = k then none else getL k' l := by
  induction l with
  | nil => simp [delL, getL]
  | cons hd t ih =>
    obtain ⟨k'', v''⟩ := hd
    unfold delL
    by_cases h2 : k = k''
    · subst h2
      simp only [if_true, ih, getL]
      by_cases h3 : k' = k <;> simp [h3]
    · simp only [h2, if_false, getL, ih]
      by_cases h3 : k' = k''
      · subst h3
        have : ¬ k' = k := fun h => h2 h.symm
        simp [this]
      · simp [h3]

@[simp] theorem get_set (m : FMap β) (k k' : Nat) (v : β) :
    (m.set k v).get k' = if k' = k then some v else m.get k' := getL_insL k k' v m.l

@[simp] theorem get_erase (m : FMap β) (k k' : Nat) :
    (m.erase k).get k' = if k' = k then none else m.get k' := getL_delL k k' m.l

@[simp] theorem get_empty (k : Nat) : (empty : FMap β).get k = none := rfl

@[simp] theorem val_set [Inhabited β] (m : FMap β) (k k' : Nat) (v : β) :
    (m.set k v).val k' = if k' = k then v else m.val k' := by
  unfold FMap.val; rw [get_set]; split <;> rfl

end FMap

/-- The branches of `step` that raise a fault or hand a nil packet on, by their guards alone.
None is enabled in a well-formed state (`Bad.elim`), so what they lead to never matters. -/
inductive Bad (cfg : Cfg) (s : State) : Label → Prop
  | rxDeliver (p : Pkt) (r : Nat) (hrx : s.rx = .sending p r) (hcl : (getR s r).chClosed = true) :
      Bad cfg s .rxDeliver
  | rxDoneDrop (p : Pkt) (r : Nat) (hrx : s.rx = .sending p r) (hcl : (getR s r).chClosed = true) :
      Bad cfg s .rxDoneDrop
  | take (i r : Nat) (hpc : (getC s i).pc = .waiting r) (hcl : (getR s r).chClosed = true) : Bad cfg s (.take i)
  | accept (i r : Nat) (hpc : (getC s i).pc = .matching r none) : Bad cfg s (.accept i)
  | cancel1 (i r : Nat) (w : Why) (hpc : (getC s i).pc = .leaving r w) (hd : (getR s r).doneClosed = true) :
      Bad cfg s (.cancel1 i)
  | cancel2 (i r : Nat) (hp : s.pending.get (cfg.caller i).xid = some r) (hcl : (getR s r).chClosed = true) :
      Bad cfg s (.cancel2 i)

/-- `step` as a relation: one constructor per enabled branch, carrying the branch's guards. -/
inductive Step (cfg : Cfg) (s : State) : Label → State → Prop
  | arrive (d : Dgram) : Step cfg s (.arrive d) { s with inq := s.inq ++ [d] }
  | advance (t : Nat) (h : s.now ≤ t) : Step cfg s (.advance t) { s with now := t }
  | callZero (i : Nat) (hpc : (getC s i).pc = .idle) (h0 : (cfg.caller i).retry = 0) :
      Step cfg s (.call i) (setC s i { getC s i with pc := .returned .noResp, startProc := s.processed })
  | call (i : Nat) (hpc : (getC s i).pc = .idle) (h0 : (cfg.caller i).retry ≠ 0) :
      Step cfg s (.call i) (setC s i { getC s i with
        pc := .start, startProc := s.processed,
        triesLeft := if (cfg.caller i).retry < 0 then none else some (cfg.caller i).retry.toNat })
  | timerFire (i : Nat) (hpc : (∃ r, (getC s i).pc = .waiting r) ∨ ∃ r p, (getC s i).pc = .matching r p)
      (ht : (getC s i).timerFired = false) :
      Step cfg s (.timerFire i) (setC s i { getC s i with timerFired := true })
  | ctxDone (i : Nat) (hd : (getC s i).ctxDone = false) :
      Step cfg s (.ctxDone i) (setC s i { getC s i with ctxDone := true })
  | close (hc : s.closed = false) : Step cfg s .close { s with closed := true }
  | closeReturn (hc : s.closed = true) (hrx : s.rx = .exited) (hr : s.closeReturned = false) :
      Step cfg s .closeReturn { s with closeReturned := true }
  | rxRead (d : Dgram) (rest : List Dgram) (hrx : s.rx = .idle) (hq : s.inq = d :: rest) :
      Step cfg s .rxRead { s with rx := .got ⟨s.hist.length, d⟩, hist := s.hist ++ [d], inq := rest }
  | rxExit (hrx : s.rx = .idle) (hc : s.closed = true) : Step cfg s .rxExit { s with rx := .exited }
  | rxDrop (p : Pkt) (hrx : s.rx = .got p) (hok : p.d.ok = false) :
      Step cfg s .rxDrop { s with rx := .idle, processed := s.processed + 1 }
  | rxPass (p : Pkt) (hrx : s.rx = .got p) (hok : p.d.ok = true) : Step cfg s .rxPass { s with rx := .passed p }
  | rxLockSome (p : Pkt) (r : Nat) (hrx : s.rx = .passed p) (hm : s.mutex = none)
      (hp : s.pending.get p.d.xid = some r) :
      Step cfg s .rxLock { s with mutex := some .rx, rx := .sending p r }
  | rxLockNone (p : Pkt) (hrx : s.rx = .passed p) (hm : s.mutex = none) (hp : s.pending.get p.d.xid = none) :
      Step cfg s .rxLock { s with mutex := some .rx, rx := .unlocking }
  | rxDeliver (p : Pkt) (r : Nat) (hrx : s.rx = .sending p r) (hm : s.mutex = some .rx)
      (hroom : (getR s r).buf.length < (getR s r).cap ∨
        ((getR s r).buf = [] ∧ (getC s (getR s r).owner).pc = .waiting r))
      (hcl : (getR s r).chClosed = false) :
      Step cfg s .rxDeliver
        { setR s r { getR s r with buf := (getR s r).buf ++ [p], routed := (getR s r).routed ++ [p] } with
          rx := .unlocking }
  | rxDoneDrop (p : Pkt) (r : Nat) (hrx : s.rx = .sending p r) (hm : s.mutex = some .rx)
      (hd : (getR s r).doneClosed = true) (hcl : (getR s r).chClosed = false) :
      Step cfg s .rxDoneDrop
        { setR s r { getR s r with chClosed := true } with pending := s.pending.erase p.d.xid, rx := .unlocking }
  | rxUnlock (hrx : s.rx = .unlocking) (hm : s.mutex = some .rx) :
      Step cfg s .rxUnlock { s with mutex := none, rx := .idle, processed := s.processed + 1 }
  | lockStart (i : Nat) (hm : s.mutex = none) (hpc : (getC s i).pc = .start) :
      Step cfg s (.lock i) { setC s i { getC s i with pc := .regLocked } with mutex := some (.caller i) }
  | lockCancel (i r : Nat) (w : Why) (hm : s.mutex = none) (hpc : (getC s i).pc = .leaving2 r w) :
      Step cfg s (.lock i) { setC s i { getC s i with pc := .cancelLocked r w } with mutex := some (.caller i) }
  | register (i : Nat) (hpc : (getC s i).pc = .regLocked) (hm : s.mutex = some (.caller i))
      (hp : s.pending.get (cfg.caller i).xid = none) :
      Step cfg s (.register i)
        { setC (setR s s.nregs { xid := (cfg.caller i).xid, owner := i, cap := cfg.cap, bornAt := s.processed }) i
            { getC s i with pc := .registered s.nregs, timerFired := false, lastReg := s.nregs } with
          nregs := s.nregs + 1, pending := s.pending.set (cfg.caller i).xid s.nregs, mutex := none }
  | refuse (i : Nat) (hpc : (getC s i).pc = .regLocked) (hm : s.mutex = some (.caller i))
      (hp : (s.pending.get (cfg.caller i).xid).isSome = true) :
      Step cfg s (.refuse i) { setC s i { getC s i with pc := .returned .inUse } with mutex := none }
  | transmit (i r : Nat) (hpc : (getC s i).pc = .registered r) (hc : s.closed = false) :
      Step cfg s (.transmit i)
        (setC s i { getC s i with pc := .waiting r, tries := (getC s i).tries + 1, tstart := s.now })
  | transmitFail (i r : Nat) (hpc : (getC s i).pc = .registered r) (hc : s.closed = true) :
      Step cfg s (.transmitFail i) (setC s i { getC s i with pc := .leaving r .txfail })
  | transmitErr (i r : Nat) (hpc : (getC s i).pc = .registered r) (hc : s.closed = false) :
      Step cfg s (.transmitErr i) (setC s i { getC s i with pc := .leaving r .txerr })
  | take (i r : Nat) (p : Pkt) (rest : List Pkt) (hpc : (getC s i).pc = .waiting r)
      (hb : (getR s r).buf = p :: rest) :
      Step cfg s (.take i)
        (setC (setR s r { getR s r with buf := rest, hand := some p }) i
          { getC s i with pc := .matching r (some p) })
  | accept (i r : Nat) (p : Pkt) (hpc : (getC s i).pc = .matching r (some p))
      (ha : accepted (cfg.caller i) p.d = true) :
      Step cfg s (.accept i) (setC s i { getC s i with pc := .leaving r (.resp (some p)) })
  | reject (i r : Nat) (p : Pkt) (hpc : (getC s i).pc = .matching r (some p))
      (ha : accepted (cfg.caller i) p.d = false) :
      Step cfg s (.reject i)
        (setC (setR s r { getR s r with rejected := (getR s r).rejected ++ [p], hand := none }) i
          { getC s i with pc := .waiting r })
  | giveUp (i r : Nat) (hpc : (getC s i).pc = .waiting r) (ht : (getC s i).timerFired = true) :
      Step cfg s (.giveUp i) (setC s i { getC s i with pc := .leaving r .deadline })
  | giveUpCtx (i r : Nat) (hpc : (getC s i).pc = .waiting r) (hd : (getC s i).ctxDone = true) :
      Step cfg s (.giveUpCtx i) (setC s i { getC s i with pc := .leaving r .ctx })
  | giveUpClosed (i r : Nat) (hpc : (getC s i).pc = .waiting r) (hc : s.closed = true) :
      Step cfg s (.giveUpClosed i) (setC s i { getC s i with pc := .leaving r .closed })
  | cancel1 (i r : Nat) (w : Why) (hpc : (getC s i).pc = .leaving r w) (hd : (getR s r).doneClosed = false) :
      Step cfg s (.cancel1 i)
        (setC (setR s r { getR s r with doneClosed := true }) i { getC s i with pc := .leaving2 r w })
  | cancel2 (i r r' : Nat) (w : Why) (hpc : (getC s i).pc = .cancelLocked r w)
      (hm : s.mutex = some (.caller i)) (hp : s.pending.get (cfg.caller i).xid = some r')
      (ho : cfg.cancelChecksOwner = false ∨ r' = r) (hcl : (getR s r').chClosed = false) :
      Step cfg s (.cancel2 i)
        { setR { setC s i { getC s i with pc := .after w } with mutex := none } r'
            { getR s r' with chClosed := true } with
          pending := s.pending.erase (cfg.caller i).xid }
  | cancel2Skip (i r : Nat) (w : Why) (hpc : (getC s i).pc = .cancelLocked r w)
      (hm : s.mutex = some (.caller i))
      (hp : ∀ r', s.pending.get (cfg.caller i).xid = some r' → cfg.cancelChecksOwner = true ∧ r' ≠ r) :
      Step cfg s (.cancel2 i) { setC s i { getC s i with pc := .after w } with mutex := none }
  | nextTry (i : Nat) (hpc : (getC s i).pc = .after .deadline) (hl : decTries (getC s i).triesLeft ≠ some 0) :
      Step cfg s (.nextTry i)
        (setC s i { getC s i with pc := .start, triesLeft := decTries (getC s i).triesLeft })
  | ret (i : Nat) (w : Why) (hpc : (getC s i).pc = .after w)
      (hl : w = .deadline → decTries (getC s i).triesLeft = some 0) :
      Step cfg s (.ret i) (setC s i { getC s i with pc := .returned (retOf w) })
  | bad (l : Label) (s' : State) (hp : s'.pending = s.pending) (h : Bad cfg s l) : Step cfg s l s'

/-- Unfold `step`, split every branch: each enabled one is a constructor of `Step` (or of `Bad`),
its guards the ones the splitting found. -/
theorem step_sound {cfg : Cfg} {s s' : State} {l : Label} (h : step cfg s l = some s') : Step cfg s l s' := by
  cases l <;> simp only [step] at h
  case call i =>
    split at h
    · split at h <;> cases h
      · exact .callZero i ‹_› ‹_›
      · exact .call i ‹_› ‹_›
    · cases h
  all_goals (repeat' split at h) <;> cases h
  all_goals first
    | (refine .bad _ _ rfl ?_; constructor <;> first | assumption | (simp_all; done))
    | constructor <;> first | assumption | simp_all

def CPc.inCS : CPc → Bool
  | .regLocked | .cancelLocked _ _ => true
  | _ => false

def RPc.inCS : RPc → Bool
  | .sending _ _ | .unlocking => true
  | _ => false

def CPc.reg : CPc → Option Nat
  | .registered r | .waiting r | .matching r _ | .leaving r _ | .leaving2 r _ | .cancelLocked r _ => some r
  | _ => none

/-- `done` of the current registration has not been closed by this caller yet -/
def CPc.doneOpen : CPc → Bool
  | .registered _ | .waiting _ | .matching _ _ | .leaving _ _ => true
  | _ => false

section pcsimp
variable (r : Nat) (p : Option Pkt) (w : Why) (res : Ret) (q : Pkt)
@[simp, grind =] theorem inCS_idle : CPc.inCS .idle = false := rfl
@[simp, grind =] theorem inCS_start : CPc.inCS .start = false := rfl
@[simp, grind =] theorem inCS_regLocked : CPc.inCS .regLocked = true := rfl
@[simp, grind =] theorem inCS_registered : CPc.inCS (.registered r) = false := rfl
@[simp, grind =] theorem inCS_waiting : CPc.inCS (.waiting r) = false := rfl
@[simp, grind =] theorem inCS_matching : CPc.inCS (.matching r p) = false := rfl
@[simp, grind =] theorem inCS_leaving : CPc.inCS (.leaving r w) = false := rfl
@[simp, grind =] theorem inCS_leaving2 : CPc.inCS (.leaving2 r w) = false := rfl
@[simp, grind =] theorem inCS_cancelLocked : CPc.inCS (.cancelLocked r w) = true := rfl
@[simp, grind =] theorem inCS_after : CPc.inCS (.after w) = false := rfl
@[simp, grind =] theorem inCS_returned : CPc.inCS (.returned res) = false := rfl
@[simp, grind =] theorem rinCS_idle : RPc.inCS .idle = false := rfl
@[simp, grind =] theorem rinCS_got : RPc.inCS (.got q) = false := rfl
@[simp, grind =] theorem rinCS_passed : RPc.inCS (.passed q) = false := rfl
@[simp, grind =] theorem rinCS_sending : RPc.inCS (.sending q r) = true := rfl
@[simp, grind =] theorem rinCS_unlocking : RPc.inCS .unlocking = true := rfl
@[simp, grind =] theorem rinCS_exited : RPc.inCS .exited = false := rfl
@[simp, grind =] theorem reg_idle : CPc.reg .idle = none := rfl
@[simp, grind =] theorem reg_start : CPc.reg .start = none := rfl
@[simp, grind =] theorem reg_regLocked : CPc.reg .regLocked = none := rfl
@[simp, grind =] theorem reg_registered : CPc.reg (.registered r) = some r := rfl
@[simp, grind =] theorem reg_waiting : CPc.reg (.waiting r) = some r := rfl
@[simp, grind =] theorem reg_matching : CPc.reg (.matching r p) = some r := rfl
@[simp, grind =] theorem reg_leaving : CPc.reg (.leaving r w) = some r := rfl
@[simp, grind =] theorem reg_leaving2 : CPc.reg (.leaving2 r w) = some r := rfl
@[simp, grind =] theorem reg_cancelLocked : CPc.reg (.cancelLocked r w) = some r := rfl
@[simp, grind =] theorem reg_after : CPc.reg (.after w) = none := rfl
@[simp, grind =] theorem reg_returned : CPc.reg (.returned res) = none := rfl
@[simp, grind =] theorem dopen_idle : CPc.doneOpen .idle = false := rfl
@[simp, grind =] theorem dopen_start : CPc.doneOpen .start = false := rfl
@[simp, grind =] theorem dopen_regLocked : CPc.doneOpen .regLocked = false := rfl
@[simp, grind =] theorem dopen_registered : CPc.doneOpen (.registered r) = true := rfl
@[simp, grind =] theorem dopen_waiting : CPc.doneOpen (.waiting r) = true := rfl
@[simp, grind =] theorem dopen_matching : CPc.doneOpen (.matching r p) = true := rfl
@[simp, grind =] theorem dopen_leaving : CPc.doneOpen (.leaving r w) = true := rfl
@[simp, grind =] theorem dopen_leaving2 : CPc.doneOpen (.leaving2 r w) = false := rfl
@[simp, grind =] theorem dopen_cancelLocked : CPc.doneOpen (.cancelLocked r w) = false := rfl
@[simp, grind =] theorem dopen_after : CPc.doneOpen (.after w) = false := rfl
@[simp, grind =] theorem dopen_returned : CPc.doneOpen (.returned res) = false := rfl
end pcsimp

@[simp] theorem getC_setC (s : State) (i j : Nat) (c : Caller) :
    getC (setC s i c) j = if j = i then c else getC s j := FMap.val_set ..

@[simp] theorem getR_setR (s : State) (r q : Nat) (g : Reg) :
    getR (setR s r g) q = if q = r then g else getR s q := FMap.val_set ..

theorem getC_ne (s : State) {i j : Nat} (c : Caller) (h : j ≠ i) : getC (setC s i c) j = getC s j :=
  (getC_setC ..).trans (if_neg h)

theorem getR_ne (s : State) {r q : Nat} (g : Reg) (h : q ≠ r) : getR (setR s r g) q = getR s q :=
  (getR_setR ..).trans (if_neg h)

/-- What holds of every caller's record survives `setC` if the new record has it. -/
theorem forall_getC_setC {P : Caller → Prop} {s : State} (h : ∀ j, P (getC s j)) (i : Nat) {c : Caller} (hc : P c) :
    ∀ j, P (getC (setC s i c) j) := fun j => by
  rw [getC_setC]; split
  · exact hc
  · exact h j

@[simp] theorem default_caller_pc : (default : Caller).pc = .idle := rfl

/-! ### Invariants 1 and 2

How `step_mutex`, `step_wf`, `step_cinv` (and `step_hinv` in ClientLTSHist.lean) go: `cases` on the
`Step`, then
* `bad`: not enabled (`Bad.elim`);
* the branches that write nothing the invariant reads: the new clause is the old one up to
  unfolding the record update (`{ h with }`);
* every other branch by the update lemma for its shape. A caller moves its program counter:
  `MutexInv.move`, `WF.move`, `COK.move`. A registration changes in what the invariant does not
  read: `WF.touch`, `CInv.touch`, `HInv.touch`. A caller and the registration it names change
  together, and nobody else refers to it (`WF.sole`): `HInv.turn`. An entry leaves `pending`:
  `WF.forget`. A caller lets go of its registration: `WF.drop`. `register` and `cancel1` of `step_wf`
  clause by clause. The `congr` lemmas carry the result over the fields an invariant does not read. -/

/-- Invariant 1: the mutex owner is the process inside a critical section. -/
structure MutexInv (s : State) : Prop where
  rx : s.mutex = some .rx ↔ s.rx.inCS = true
  c : ∀ i, s.mutex = some (.caller i) ↔ (getC s i).pc.inCS = true

/-- Invariant 2: registrations, the pending map and the `done` channels.

`pend`: a pending entry exists, is filed under its own xid, and its channel is
open. `pcreg`: the registration a caller's program counter names is its own.
`dopen`: its `done` is open exactly until `cancel1`. `dpend` (needs the owner
check in `cancel`): while `done` is open the entry is pending — nobody else
removes it. `powner`: a pending entry's owner still refers to it. `rxsend`:
the entry the loop is delivering to is the pending one. `nofault`: no
close-of-closed / send-on-closed channel. `nonil`: no caller ever receives
from a closed channel. -/

structure WF (cfg : Cfg) (s : State) : Prop where
  pend : ∀ x r, s.pending.get x = some r → r < s.nregs ∧ (getR s r).xid = x ∧ (getR s r).chClosed = false
  pcreg : ∀ i r, (getC s i).pc.reg = some r → r < s.nregs ∧ (getR s r).owner = i ∧ (getR s r).xid = (cfg.caller i).xid
  dopen : ∀ i r, (getC s i).pc.reg = some r → ((getR s r).doneClosed = false ↔ (getC s i).pc.doneOpen = true)
  dpend : ∀ i r, (getC s i).pc.reg = some r → (getR s r).doneClosed = false → s.pending.get (cfg.caller i).xid = some r
  powner : ∀ x r, s.pending.get x = some r → (getC s (getR s r).owner).pc.reg = some r
  rxsend : ∀ p r, s.rx = .sending p r → s.pending.get p.d.xid = some r
  nofault : s.fault = none
  nonil : ∀ i r, (getC s i).pc ≠ .matching r none

theorem init_mutex : MutexInv init := ⟨by decide, fun _ => ⟨nofun, nofun⟩⟩

theorem init_wf (cfg : Cfg) : WF cfg init := ⟨nofun, nofun, nofun, nofun, nofun, nofun, rfl, nofun⟩

theorem Bad.elim {cfg : Cfg} {s : State} {l : Label} (hw : WF cfg s) (h : Bad cfg s l) : False := by
  have popen {x r} (h : s.pending.get x = some r) : (getR s r).chClosed = false := (hw.pend x r h).2.2
  cases h
  case rxDeliver p r hrx hcl | rxDoneDrop p r hrx hcl => simp [popen (hw.rxsend p r hrx)] at hcl
  case cancel2 i r hp hcl => simp [popen hp] at hcl
  case accept i r hpc => exact hw.nonil i r hpc
  case cancel1 i r w hpc hd => simp [(hw.dopen i r (by simp [hpc])).2 (by simp [hpc])] at hd
  case take i r hpc hcl =>
    -- `done` is open while waiting, so the entry is still pending, so its channel is open
    have hreg : (getC s i).pc.reg = some r := by simp [hpc]
    simp [popen (hw.dpend i r hreg ((hw.dopen i r hreg).2 (by simp [hpc])))] at hcl

theorem MutexInv.move {s : State} (hi : MutexInv s) (i : Nat) (c : Caller)
    (h : c.pc.inCS = (getC s i).pc.inCS) : MutexInv (setC s i c) := by
  refine ⟨hi.rx, fun j => ?_⟩
  rw [getC_setC]
  split
  · next hj => rw [h, ← hj]; exact hi.c j
  · exact hi.c j

theorem step_mutex {cfg : Cfg} {s s' : State} {l : Label} (hw : WF cfg s) (hi : MutexInv s)
    (h : Step cfg s l s') : MutexInv s' := by
  cases h
  case bad h _ => exact (h.elim hw).elim
  case callZero | call | timerFire | ctxDone | transmit | transmitFail | transmitErr | accept
      | giveUp | giveUpCtx | giveUpClosed | nextTry | ret =>
    exact hi.move _ _ (by simp [*])
  -- a registration changes as well: `MutexInv` does not read registrations
  case take | reject | cancel1 => exact MutexInv.move (s := setR ..) ⟨hi.rx, hi.c⟩ _ _ (by simp [*])
  all_goals
    obtain ⟨hrx, hc⟩ := hi
    constructor <;> try (with_reducible assumption)
  all_goals grind [FMap.val_set]

/-- What `WF` reads. -/
theorem WF.congr {cfg : Cfg} {s s' : State} (hw : WF cfg s) (hc : s'.callers = s.callers)
    (hr : s'.regs = s.regs) (hn : s'.nregs = s.nregs) (hp : s'.pending = s.pending) (hx : s'.rx = s.rx)
    (hf : s'.fault = s.fault) : WF cfg s' := by
  cases s; cases s'; cases hc; cases hr; cases hn; cases hp; cases hx; cases hf
  exact { hw with }

theorem WF.move {cfg : Cfg} {s : State} (hw : WF cfg s) (i : Nat) (c : Caller)
    (hreg : c.pc.reg = (getC s i).pc.reg) (hdo : c.pc.doneOpen = (getC s i).pc.doneOpen)
    (hnil : ∀ r, c.pc = .matching r none → (getC s i).pc = .matching r none) : WF cfg (setC s i c) := by
  have key j : (getC (setC s i c) j).pc.reg = (getC s j).pc.reg ∧
      (getC (setC s i c) j).pc.doneOpen = (getC s j).pc.doneOpen := by
    rw [getC_setC]; split
    · next h => rw [h]; exact ⟨hreg, hdo⟩
    · exact ⟨rfl, rfl⟩
  refine ⟨hw.pend, fun j r h => ?_, fun j r h => ?_, fun j r h => ?_, fun x r h => ?_, hw.rxsend, hw.nofault,
    fun j r => ?_⟩
  · exact hw.pcreg j r ((key j).1 ▸ h)
  · rw [(key j).2]; exact hw.dopen j r ((key j).1 ▸ h)
  · exact hw.dpend j r ((key j).1 ▸ h)
  · rw [(key _).1]; exact hw.powner x r h
  · rw [getC_setC]; split
    · exact fun h => hw.nonil i r (hnil r h)
    · exact hw.nonil j r

/-- A registration changes in what `WF` does not read, or in `chClosed` while it is not pending. -/
theorem WF.touch {cfg : Cfg} {s : State} (hw : WF cfg s) (r : Nat) (g : Reg)
    (hx : g.xid = (getR s r).xid) (ho : g.owner = (getR s r).owner)
    (hc : ∀ x, s.pending.get x = some r → g.chClosed = false)
    (hd : g.doneClosed = (getR s r).doneClosed) : WF cfg (setR s r g) := by
  have key q : (getR (setR s r g) q).xid = (getR s q).xid ∧ (getR (setR s r g) q).owner = (getR s q).owner ∧
      (getR (setR s r g) q).doneClosed = (getR s q).doneClosed := by
    rw [getR_setR]; split
    · next h => rw [h]; exact ⟨hx, ho, hd⟩
    · exact ⟨rfl, rfl, rfl⟩
  refine ⟨fun x q h => ⟨(hw.pend x q h).1, (key q).1.trans (hw.pend x q h).2.1, ?_⟩, fun j q h => ?_, fun j q h => ?_,
    fun j q h => ?_, fun x q h => ?_, hw.rxsend, hw.nofault, hw.nonil⟩
  · rw [getR_setR]; split
    · next e => exact hc x (e ▸ h)
    · exact (hw.pend x q h).2.2
  · rw [(key q).1, (key q).2.1]; exact hw.pcreg j q h
  · rw [(key q).2.2]; exact hw.dopen j q h
  · rw [(key q).2.2]; exact hw.dpend j q h
  · rw [(key q).2.1]; exact hw.powner x q h

/-- A registration is named by its owner only. -/
theorem WF.sole {cfg : Cfg} {s : State} (hw : WF cfg s) {i j r : Nat} (hi : (getC s i).pc.reg = some r)
    (hj : (getC s j).pc.reg = some r) : j = i :=
  (hw.pcreg j r hj).2.1.symm.trans (hw.pcreg i r hi).2.1

/-- What is pending once `x` is erased was pending, under another transaction id and so for
another registration. -/
theorem WF.erase_get {cfg : Cfg} {s : State} (hw : WF cfg s) {x y r q : Nat} (hp : s.pending.get x = some r)
    (h : (s.pending.erase x).get y = some q) : s.pending.get y = some q ∧ q ≠ r := by
  rw [FMap.get_erase] at h
  split at h
  · cases h
  · next hy => exact ⟨h, fun e => hy ((hw.pend y q h).2.1.symm.trans (e ▸ (hw.pend x r hp).2.1))⟩

/-- An entry whose `done` is closed may leave `pending` (`dpend` asks nothing of it) unless the loop
is sending on it. -/
theorem WF.forget {cfg : Cfg} {s : State} (hw : WF cfg s) (x r : Nat) (hp : s.pending.get x = some r)
    (hd : (getR s r).doneClosed = true) (hrx : ∀ p, s.rx ≠ .sending p r) :
    WF cfg { s with pending := s.pending.erase x } := by
  -- an entry that stays is filed under another id than `x`
  have stays {y q} (h : s.pending.get y = some q) (hq : q ≠ r) : (s.pending.erase x).get y = some q := by
    rw [FMap.get_erase, if_neg fun e => hq (Option.some.inj ((e ▸ h).symm.trans hp))]
    exact h
  refine { hw with
    pend := fun y q h => hw.pend y q (hw.erase_get hp h).1
    dpend := fun j q h hdc => stays (hw.dpend j q h hdc) fun e => ?_
    powner := fun y q h => hw.powner y q (hw.erase_get hp h).1
    rxsend := fun p q h => stays (hw.rxsend p q h) fun e => hrx p (e ▸ h) }
  rw [e, hd] at hdc
  cases hdc

/-- A caller lets go of a registration that nothing pending names. -/
theorem WF.drop {cfg : Cfg} {s : State} (hw : WF cfg s) (i : Nat) (c : Caller) (hreg : c.pc.reg = none)
    (hfree : ∀ x r, s.pending.get x = some r → (getC s i).pc.reg ≠ some r)
    (hnil : ∀ r, c.pc ≠ .matching r none) : WF cfg (setC s i c) := by
  have key {j r} (h : (getC (setC s i c) j).pc.reg = some r) :
      getC (setC s i c) j = getC s j ∧ (getC s j).pc.reg = some r := by
    rw [getC_setC] at h ⊢
    split at h
    · rw [hreg] at h; cases h
    · next hj => rw [if_neg hj]; exact ⟨rfl, h⟩
  refine ⟨hw.pend, fun j r h => hw.pcreg j r (key h).2, fun j r h => ?_, fun j r h => hw.dpend j r (key h).2,
    fun x r h => ?_, hw.rxsend, hw.nofault, fun j r => ?_⟩
  · rw [(key h).1]; exact hw.dopen j r (key h).2
  · have := hw.powner x r h
    rw [getC_ne _ _ fun e : (getR s r).owner = i => hfree x r h (e ▸ this)]
    exact this
  · rw [getC_setC]
    split
    · exact hnil r
    · exact hw.nonil j r


theorem step_wf {cfg : Cfg} (hf : cfg.cancelChecksOwner = true) {s s' : State} {l : Label}
    (hm : MutexInv s) (hw : WF cfg s) (h : Step cfg s l s') : WF cfg s' := by
  -- a channel of a pending entry is open
  have isOpen r x (h : s.pending.get x = some r) : (getR s r).chClosed = false := (hw.pend x r h).2.2
  cases h
  case bad h _ => exact (h.elim hw).elim
  case arrive | advance | close | closeReturn => exact { hw with }
  case callZero | call | timerFire | ctxDone | transmit | transmitFail | transmitErr | accept
      | giveUp | giveUpCtx | giveUpClosed | nextTry | ret | lockStart | lockCancel | refuse =>
    exact (hw.move _ _ (by simp [*]) (by simp [*]) (by simp [*])).congr rfl rfl rfl rfl rfl rfl
  case rxRead | rxExit | rxDrop | rxPass | rxLockNone | rxUnlock => exact { hw with rxsend := nofun }
  case rxLockSome hp => exact { hw with rxsend := fun _ _ h => by cases h; exact hp }
  case take | reject =>
    exact (hw.touch _ _ (by rfl) (by rfl) (by exact isOpen _) (by rfl)).move _ _ (by simp [*]) (by simp [*])
      (by simp [*])
  case rxDeliver => exact { hw.touch _ _ (by rfl) (by rfl) (by exact isOpen _) (by rfl) with rxsend := nofun }
  -- `rxDoneDrop`: the entry leaves `pending` and, pending no more, has its channel closed
  case rxDoneDrop p r hrx _ hd _ =>
    have hp := hw.rxsend p r hrx
    have hw' : WF cfg { s with rx := .unlocking } := { hw with rxsend := nofun }
    exact ((hw'.forget _ r hp hd nofun).touch r _ (by rfl) (by rfl)
      (fun y h => absurd rfl (hw.erase_get hp h).2) (by rfl)).congr rfl rfl rfl rfl rfl rfl
  -- `cancel2Skip`: the entry under the caller's id is not its own, so nothing pending names what it lets go of
  case cancel2Skip i r w hpc _ hp =>
    refine (hw.drop i _ rfl (fun x q h e => ?_) (by exact nofun)).congr rfl rfl rfl rfl rfl rfl
    obtain rfl : r = q := by simpa [hpc] using e
    have hx : x = (cfg.caller i).xid := (hw.pend x r h).2.1.symm.trans (hw.pcreg i r e).2.2
    exact (hp r (hx ▸ h)).2 rfl
  -- `cancel2`: the owner check makes the entry the caller's own; its `done` is closed, the loop is not
  -- sending (the caller holds the mutex), so it leaves `pending`, is closed, and the caller lets go of it
  case cancel2 i r r' w hpc hmu hp ho _ =>
    obtain rfl : r' = r := by simpa [hf] using ho
    have hd : (getR s r').doneClosed = true := by simpa [hpc] using hw.dopen i r' (by simp [hpc])
    have hrx p : s.rx ≠ .sending p r' := fun e => by
      have := hm.rx.2 (by rw [e]; rfl)
      rw [hmu] at this
      cases this
    refine (((hw.forget _ r' hp hd hrx).touch r' _ (by rfl) (by rfl)
      (fun y h => absurd rfl (hw.erase_get hp h).2) (by rfl)).drop i _ rfl (fun y q h e => ?_)
      (by exact nofun)).congr rfl rfl rfl rfl rfl rfl
    obtain rfl : r' = q := by simpa [hpc] using e
    exact (hw.erase_get hp h).2 rfl
  /- `register`: the new entry has index `nregs`, above every index an old clause speaks of, and is
  filed under a transaction id that was not pending. `cancel1`: `done` closes exactly when the program
  counter stops being `doneOpen`. -/
  all_goals
    obtain ⟨hpend, hpcreg, hdopen, hdpend, hpowner, hrxsend, hnf, hnonil⟩ := hw
    clear hm isOpen
    constructor <;> try (with_reducible assumption)
  -- each clause in the smallest context that proves it: `grind` pays for every quantified
  -- hypothesis in sight
  all_goals try (case nonil => clear hpend hpcreg hdopen hdpend hpowner hrxsend; grind [FMap.val_set])
  all_goals try (case pcreg => clear hpend hdopen hdpend hpowner hrxsend hnonil; grind [FMap.val_set])
  all_goals try (case dopen => clear hpend hdpend hpowner hrxsend hnonil; grind [FMap.val_set])
  all_goals grind [FMap.val_set, FMap.get_set, FMap.get_erase]

def RPc.busy : RPc → Bool
  | .got _ | .passed _ | .sending _ _ | .unlocking => true
  | _ => false

def RPc.pkt : RPc → Option Pkt
  | .got p | .passed p | .sending p _ => some p
  | _ => none

def RPc.okPkt : RPc → Option Pkt
  | .passed p | .sending p _ => some p
  | _ => none

section
variable (q : Pkt) (r : Nat)
@[simp, grind =] theorem busy_idle : RPc.busy .idle = false := rfl
@[simp, grind =] theorem busy_got : RPc.busy (.got q) = true := rfl
@[simp, grind =] theorem busy_passed : RPc.busy (.passed q) = true := rfl
@[simp, grind =] theorem busy_sending : RPc.busy (.sending q r) = true := rfl
@[simp, grind =] theorem busy_unlocking : RPc.busy .unlocking = true := rfl
@[simp, grind =] theorem busy_exited : RPc.busy .exited = false := rfl
@[simp, grind =] theorem pkt_idle : RPc.pkt .idle = none := rfl
@[simp, grind =] theorem pkt_got : RPc.pkt (.got q) = some q := rfl
@[simp, grind =] theorem pkt_passed : RPc.pkt (.passed q) = some q := rfl
@[simp, grind =] theorem pkt_sending : RPc.pkt (.sending q r) = some q := rfl
@[simp, grind =] theorem pkt_unlocking : RPc.pkt .unlocking = none := rfl
@[simp, grind =] theorem pkt_exited : RPc.pkt .exited = none := rfl
@[simp, grind =] theorem okPkt_idle : RPc.okPkt .idle = none := rfl
@[simp, grind =] theorem okPkt_got : RPc.okPkt (.got q) = none := rfl
@[simp, grind =] theorem okPkt_passed : RPc.okPkt (.passed q) = some q := rfl
@[simp, grind =] theorem okPkt_sending : RPc.okPkt (.sending q r) = some q := rfl
@[simp, grind =] theorem okPkt_unlocking : RPc.okPkt .unlocking = none := rfl
@[simp, grind =] theorem okPkt_exited : RPc.okPkt .exited = none := rfl
end

/-- contents of channels and of the loop's hands -/
structure CInv (cfg : Cfg) (s : State) : Prop where
  hlen : s.hist.length = s.processed + (if s.rx.busy then 1 else 0)
  rxpkt : ∀ p, s.rx.pkt = some p → p.seq = s.processed ∧ s.hist[p.seq]? = some p.d
  rxok : ∀ p, s.rx.okPkt = some p → p.d.ok = true
  routed : ∀ r p, p ∈ (getR s r).routed →
    p.d.ok = true ∧ p.d.xid = (getR s r).xid ∧ s.hist[p.seq]? = some p.d ∧ (getR s r).bornAt ≤ p.seq
  born : ∀ r, (getR s r).bornAt ≤ s.processed

theorem init_cinv (cfg : Cfg) : CInv cfg init := ⟨rfl, nofun, nofun, nofun, fun _ => Nat.le_refl 0⟩

/-- A registration is replaced by one whose routed packets and birth satisfy the two clauses about
registrations: `CInv` reads nothing else of it. -/
theorem CInv.touch {cfg : Cfg} {s : State} (hc : CInv cfg s) (r : Nat) (g : Reg)
    (hro : ∀ p ∈ g.routed, p.d.ok = true ∧ p.d.xid = g.xid ∧ s.hist[p.seq]? = some p.d ∧ g.bornAt ≤ p.seq)
    (hb : g.bornAt ≤ s.processed) : CInv cfg (setR s r g) := by
  refine ⟨hc.hlen, hc.rxpkt, hc.rxok, fun q p hp => ?_, fun q => ?_⟩
  · by_cases e : q = r
    · rw [getR_setR, if_pos e] at hp ⊢; exact hro p hp
    · rw [getR_setR, if_neg e] at hp ⊢; exact hc.routed q p hp
  · by_cases e : q = r
    · rw [getR_setR, if_pos e]; exact hb
    · rw [getR_setR, if_neg e]; exact hc.born q

theorem step_cinv {cfg : Cfg} {s s' : State} {l : Label} (hw : WF cfg s) (hc : CInv cfg s)
    (h : Step cfg s l s') : CInv cfg s' := by
  cases h
  case bad h _ => exact (h.elim hw).elim
  -- `CInv` reads `hist`, `processed`, `rx` and, of a registration, `routed`, `xid`, `bornAt`
  case arrive | advance | close | closeReturn | callZero | call | timerFire | ctxDone | lockStart | lockCancel
      | refuse | transmit | transmitFail | transmitErr | accept | giveUp | giveUpCtx | giveUpClosed | cancel2Skip
      | nextTry | ret => exact { hc with }
  case take | reject | cancel1 | cancel2 =>
    exact { hc.touch _ _ (by exact hc.routed _) (by exact hc.born _) with }
  case register => exact { hc.touch _ _ (by exact nofun) (by exact Nat.le_refl _) with }
  -- the loop's own steps: `hlen`, `rxpkt`, `rxok` follow the loop's program counter
  case rxExit hrx _ | rxLockNone _ hrx _ _ =>
    exact { hc with hlen := by simpa [hrx] using hc.hlen, rxpkt := nofun, rxok := nofun }
  case rxPass p hrx hok =>
    exact { hc with hlen := by simpa [hrx] using hc.hlen, rxpkt := by simpa [hrx] using hc.rxpkt,
                    rxok := fun q hq => Option.some.inj hq ▸ hok }
  case rxLockSome p r hrx _ _ =>
    exact { hc with hlen := by simpa [hrx] using hc.hlen, rxpkt := by simpa [hrx] using hc.rxpkt,
                    rxok := by simpa [hrx] using hc.rxok }
  case rxDrop _ hrx _ | rxUnlock hrx _ =>
    exact { hc with hlen := by simpa [hrx, Nat.add_comm] using hc.hlen, rxpkt := nofun, rxok := nofun,
                    born := fun r => Nat.le_succ_of_le (hc.born r) }
  case rxDoneDrop p r hrx _ _ _ =>
    exact { hc.touch r _ (by exact hc.routed r) (by exact hc.born r) with
            hlen := by simpa [hrx] using hc.hlen, rxpkt := nofun, rxok := nofun }
  -- the packet delivered passed the filters, carries the entry's transaction id (`pend` of what `rxsend`
  -- finds) and is the datagram the loop is at
  case rxDeliver p r hrx _ _ _ =>
    have hp := hc.rxpkt p (by simp [hrx])
    refine { hc.touch r _ (fun q hq => ?_) (by exact hc.born r) with
             hlen := by simpa [hrx] using hc.hlen, rxpkt := nofun, rxok := nofun }
    rcases List.mem_append.1 hq with hq | hq
    · exact hc.routed r q hq
    · obtain rfl : q = p := by simpa using hq
      exact ⟨hc.rxok q (by simp [hrx]), (hw.pend _ _ (hw.rxsend q r hrx)).2.1.symm, hp.2, hp.1 ▸ hc.born r⟩
  -- `rxRead`: the new datagram is the last of `hist`; what was in `hist` stays where it was
  case rxRead d rest hrx _ =>
    have hl : s.hist.length = s.processed := by simpa [hrx] using hc.hlen
    refine ⟨by simp [hl], fun q hq => ?_, nofun, fun r p hp => ?_, hc.born⟩
    · obtain rfl := Option.some.inj hq
      exact ⟨hl, by simp⟩
    · obtain ⟨a, b, c, e⟩ := hc.routed r p hp
      exact ⟨a, b, by rw [List.getElem?_append_left (List.getElem?_eq_some_iff.1 c).1]; exact c, e⟩
end Dhcp.Client.LTS
