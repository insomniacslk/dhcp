import Dhcp.V6.Domain
import DhcpProofs.Lemmas.Basic
/- Field-level codec lemmas for the DHCPv6 model: durations, DUIDs, addresses, the end-of-value check `fin`; which options `decSimple` decodes. -/
namespace Dhcp.V6

theorem goRound_multiple (s : Nat) (m : Int) (hm : 0 < m) : goRound ((s : Int) * m) m = (s : Int) * m := by
  unfold goRound
  have hr : Int.tmod ((s : Int) * m) m = 0 := Int.mul_tmod_left _ _
  have hnn : ¬ ((s : Int) * m < 0) := by
    have : (0 : Int) ≤ (s : Int) * m := Int.mul_nonneg (Int.natCast_nonneg s) (Int.le_of_lt hm)
    omega
  simp only [hr, hnn, if_false]
  have : (0 : Int) + 0 < m := by omega
  rw [if_pos this]; simp

theorem durTo32_seconds (s : Nat) (h : s < 4294967296) : durTo32 ((s : Int) * second) = s := by
  unfold durTo32
  rw [goRound_multiple s second (by decide)]
  have h1 : Int.tdiv ((s : Int) * second) second = s := Int.mul_tdiv_cancel _ (by decide)
  rw [h1]
  have h2 : Int.emod (s : Int) 4294967296 = s := Int.emod_eq_of_lt (Int.natCast_nonneg s) (by omega)
  rw [h2]; simp

theorem durTo16_tenMs (k : Nat) (h : k < 65536) : durTo16 ((k : Int) * tenMs) = k := by
  unfold durTo16
  rw [goRound_multiple k tenMs (by decide)]
  have h1 : Int.tdiv ((k : Int) * tenMs) tenMs = k := Int.mul_tdiv_cancel _ (by decide)
  rw [h1]
  have h2 : Int.emod (k : Int) 65536 = k := Int.emod_eq_of_lt (Int.natCast_nonneg k) (by omega)
  rw [h2]; simp

theorem encDur_seconds {s : Nat} (h : s < 4294967296) : encDur ((s : Int) * second) = be32 s := by
  rw [encDur, durTo32_seconds s h]

theorem decDur_append (s : Nat) (h : s < 4294967296) (rest : Bytes) (e : Bool) :
    decDur ⟨be32 s ++ rest, e⟩ = ((s : Int) * second, ⟨rest, e⟩) := by
  unfold decDur
  rw [Lexer.read32_append s h]

theorem encDur_length (d : Dur) : (encDur d).length = 4 := by simp [encDur]

theorem fin_ok {α : Type} (a : α) : fin ⟨[], false⟩ a = .ok a := by
  simp [fin, Lexer.finError]

theorem fin_err {α : Type} (l : Lexer) (a : α) (h : l.err = true) : fin l a = .err := by
  simp [fin, Lexer.finError, h]

theorem fin_ne_panic {α} (l : Lexer) (a : α) : fin l a ≠ .panic := by
  unfold fin; split <;> simp

theorem fin_spec {α : Type} {l : Lexer} {a b : α} (h : fin l a = .ok b) :
    l.err = false ∧ l.data = [] ∧ a = b := by
  unfold fin at h
  split at h
  · cases h
  · rename_i hf
    simp only [Lexer.finError, Bool.or_eq_true, decide_eq_true_eq, not_or, Bool.not_eq_true, Nat.not_lt,
      Nat.le_zero_eq] at hf
    exact ⟨hf.1, List.eq_nil_of_length_eq_zero hf.2, Res.ok.inj h⟩

theorem readAll_mk (d : Bytes) (e : Bool) : Lexer.readAll ⟨d, e⟩ = (d, ⟨[], e⟩) := rfl

/-- 16 bytes whatever the address is: `write16` pads a nil or non-IP value with zeros -/
theorem write16_length (ip : IP) : (write16 ip).length = 16 := by
  cases ip with
  | none => rfl
  | some b =>
    simp only [write16, ipTo16, Option.bind_some, to16]
    split
    · simp [*]
    · split <;> simp [*]

theorem encPfx_len (pfx : Option (Nat × IP)) : (encPfx pfx).length = 17 := by
  cases pfx with
  | none => rfl
  | some q => simp only [encPfx, List.length_cons, write16_length]

theorem encPfx_length (pfx : Option (Nat × IP)) : 1 ≤ (encPfx pfx).length := by
  rw [encPfx_len]; decide

theorem write16_some {b : Bytes} (h : b.length = 16) : write16 (some b) = b := by
  simp [write16, ipTo16, to16, h]

theorem writeTo16_some {b : Bytes} (h : b.length = 16) : writeTo16 (some b) = b := by
  simp [writeTo16, ipTo16, to16, h]

theorem write16_ip16 {ip : IP} (h : IP16 ip) : ∃ b, ip = some b ∧ b.length = 16 ∧ write16 ip = b := by
  obtain ⟨b, rfl, hb⟩ := h
  exact ⟨b, rfl, hb, write16_some hb⟩

theorem writeTo16_ip16 {ip : IP} (h : IP16 ip) : ∃ b, ip = some b ∧ b.length = 16 ∧ writeTo16 ip = b := by
  obtain ⟨b, rfl, hb⟩ := h
  exact ⟨b, rfl, hb, writeTo16_some hb⟩

theorem lenPref_cons (x : Bytes) (xs : List Bytes) :
    lenPref (x :: xs) = be16 x.length ++ (x ++ lenPref xs) := by simp [lenPref]

theorem decDUID_typed (typ : Nat) (ht : typ < 65536) (body : Bytes) :
    decDUID (be16 typ ++ body) =
      (let l : Lexer := ⟨body, false⟩
       if body.length < 1 ∨ body.length > 128 then .err
       else if typ = 1 then
         let (ht, l) := l.read16
         let (t, l) := l.read32
         let (a, l) := l.readAll
         fin l (.llt ht t a)
       else if typ = 3 then
         let (ht, l) := l.read16
         let (a, l) := l.readAll
         fin l (.ll ht a)
       else if typ = 2 then
         let (n, l) := l.read32
         let (i, l) := l.readAll
         fin l (.en n i)
       else if typ = 4 then
         if body.length ≠ 16 then .err else .ok (.uuid body)
       else .ok (.opaque typ body)) := by
  unfold decDUID
  have hhas : (Lexer.has ⟨be16 typ ++ body, false⟩ 2) = true := by simp [Lexer.has]
  simp only [Lexer.new, hhas, Bool.not_true, Bool.false_eq_true, if_false, Lexer.read16_append typ ht,
    Lexer.len, Bool.or_eq_true, decide_eq_true_eq]

/- Unfolding `encOpt` here makes Lean derive its 33 equations once, in a module every later one
   imports; otherwise each proof that is the first in its file to unfold it derives them again. -/
theorem encOpts_cons (o : Opt6) (os : List Opt6) :
    encOpts (o :: os) = tlv o.code (encOpt o) ++ encOpts os := by simp only [encOpts]
theorem encOpt_generic (c : Nat) (d : Bytes) : encOpt (.generic c d) = d := by simp only [encOpt]

/-- options whose decoder is `decSimple` (no nested option list, no nested message) -/
def isSimple : Opt6 → Bool
  | .clientID _ | .serverID _ | .iana .. | .iata .. | .iaaddr .. | .relayMsg _ | .iapd ..
  | .iaprefix .. | .fourRD _ => false
  | _ => true

def SimpleRT : Prop := ∀ o : Opt6, isSimple o = true → WFOpt o → decSimple o.code (encOpt o) = .ok o

theorem code_lt (o : Opt6) (h : WFOpt o) : o.code < 65536 := by
  cases o with
  | generic c d => exact h.1
  | _ => exact Nat.le_of_ble_eq_true rfl  -- a numeral

theorem Res.map_ok {α β : Type} (f : α → β) (a : α) : (Res.ok a).map f = .ok (f a) := rfl

theorem WFOpts_mem {os : List Opt6} (h : WFOpts os) : ∀ o ∈ os, WFOpt o ∧ (encOpt o).length < 65536 := by
  induction os with
  | nil => intro o ho; simp at ho
  | cons a os ih =>
    intro o ho
    simp only [WFOpts] at h
    rcases List.mem_cons.mp ho with rfl | h'
    · exact ⟨h.1, h.2.1⟩
    · exact ih h.2.2 o h'

theorem fuelOpts_mem {os : List Opt6} : ∀ o ∈ os, fuelOpt o ≤ fuelOpts os := by
  induction os with
  | nil => intro o ho; simp at ho
  | cons a os ih =>
    intro o ho
    simp only [fuelOpts]
    rcases List.mem_cons.mp ho with rfl | h'
    · omega
    · have := ih o h'; omega

end Dhcp.V6
