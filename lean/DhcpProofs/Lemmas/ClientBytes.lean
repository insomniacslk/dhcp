import DhcpProofs.Lemmas.ClientTimed
/-
  C12, bytes and destination: the timed machine with transmission records
  (`runObsB`) erases to the machine with instants (`runObs`), and what it
  transmits is the closed form `wire`: transmission `j` is made by try `j`,
  carries the encoding of the request as it is at that try, and goes to the
  call's destination.
-/
namespace Dhcp.Client.Timed

variable {Req Dest : Type}

theorem wireFrom_eq (c : Call Req Dest) (l : List Int) (j : Nat) :
    wireFrom c j l = (l.zipIdx j).map (fun p => c.tx p.2 p.1) := by
  induction l generalizing j with
  | nil => rfl
  | cons t ts ih => simp [wireFrom, ih]

theorem wire_eq (c : Call Req Dest) (l : List Int) : wire c l = l.zipIdx.map (fun p => c.tx p.2 p.1) :=
  wireFrom_eq c l 0

theorem wire_getElem? (c : Call Req Dest) (l : List Int) (i : Nat) :
    (wire c l)[i]? = (l[i]?).map (fun t => c.tx i t) := by
  simp [wire_eq, Function.comp_def]

theorem wire_map_t (c : Call Req Dest) (l : List Int) : (wire c l).map (·.t) = l := by
  simp [wire_eq, Call.tx, Function.comp_def, List.zipIdx_map_fst]

theorem wire_length (c : Call Req Dest) (l : List Int) : (wire c l).length = l.length := by
  simp [wire_eq]

theorem wire_append (c : Call Req Dest) (l : List Int) (t : Int) : wire c (l ++ [t]) = wire c l ++ [c.tx l.length t] := by
  simp [wire_eq, List.zipIdx_append]

theorem wire_map_range (c : Call Req Dest) (f : Nat → Int) (m : Nat) :
    wire c ((List.range m).map f) = (List.range m).map (fun k => c.tx k (f k)) := by
  induction m with
  | zero => rfl
  | succ m ih => simp [List.range_succ, wire_append, ih]

/-- The machine with records is the machine with instants, every record being the one `wire`
gives for its position; while a call is parked in try `k` it has transmitted `k + 1` times. -/
inductive Sim (c : Call Req Dest) : BState Dest → CState → Prop
  | waiting (w : Wait) : w.txs.length = w.k + 1 →
      Sim c (.waiting ⟨w.k, w.start, w.timeout, wire c w.txs, w.clk⟩) (.waiting w)
  | done (txs : List Int) (t : Int) (o : Outcome) : Sim c (.done (wire c txs) t o) (.done txs t o)

theorem beginB_sim (c : Call Req Dest) (T n : Int) : Sim c (beginB c T n) (begin T n) := by
  unfold beginB begin
  split
  · exact .done [] 0 .noResp
  · exact .waiting ⟨0, 0, T, [0], 0⟩ rfl

theorem fireB_sim (c : Call Req Dest) (n : Int) (w : Wait) (hl : w.txs.length = w.k + 1) :
    Sim c (fireB c n ⟨w.k, w.start, w.timeout, wire c w.txs, w.clk⟩) (fire n w) := by
  simp only [fireB, fire]
  split
  · rw [← hl, ← wire_append]
    exact .waiting ⟨_, _, _, _, _⟩ (by simp)
  · exact .done ..

theorem advanceB_sim {c : Call Req Dest} (n t : Int) (incl : Bool) (fuel : Nat) {b : BState Dest} {s : CState}
    (h : Sim c b s) : Sim c (advanceB c n t incl fuel b) (advance n t incl fuel s) := by
  induction fuel generalizing b s with
  | zero => exact h
  | succ fuel ih =>
    cases h with
    | done => exact .done ..
    | waiting w hl =>
      simp only [advanceB, advance]
      split
      · exact ih (fireB_sim c n w hl)
      · exact .waiting w hl

theorem stepObsB_sim {c : Call Req Dest} (n : Int) {b : BState Dest} {s : CState} (o : Obs) (h : Sim c b s) :
    Sim c (stepObsB c n b o) (stepObs n s o) := by
  cases h with
  | done => exact .done ..
  | waiting w hl =>
    have ha := advanceB_sim n (max o.t w.clk) o.afterTimer (advanceFuel w.start (max o.t w.clk)) (.waiting (c := c) w hl)
    rw [stepObs_waiting]
    simp only [stepObsB]
    generalize advanceB c n _ _ _ _ = b' at ha ⊢
    generalize advance n _ _ _ _ = s' at ha ⊢
    cases ha with
    | done => exact .done ..
    | waiting w' hl' =>
      cases o.kind
      · exact .waiting { w' with clk := max o.t w.clk } hl'
      · exact .waiting { w' with clk := max o.t w.clk } hl'
      · exact .done ..
      · exact .done ..
      · exact .done ..

theorem runFromB_sim {c : Call Req Dest} (n : Int) (obs : List Obs) {b : BState Dest} {s : CState} (h : Sim c b s) :
    Sim c (runFromB c n b obs) (runFrom n s obs) := by
  induction obs generalizing b s with
  | nil => exact h
  | cons o obs ih => exact ih (stepObsB_sim n o h)

theorem finishB_sim {c : Call Req Dest} (n H : Int) {b : BState Dest} {s : CState} (h : Sim c b s) :
    finishB c n H b = ⟨wire c (finish n H s).txs, (finish n H s).ret⟩ := by
  cases h with
  | done => rfl
  | waiting w hl =>
    have ha := advanceB_sim n H true (advanceFuel w.start H) (.waiting (c := c) w hl)
    rw [finish_waiting]
    simp only [finishB]
    generalize advanceB c n _ _ _ _ = b' at ha ⊢
    generalize advance n _ _ _ _ = s' at ha ⊢
    cases ha <;> rfl

theorem runObsB_eq (c : Call Req Dest) (T n : Int) (obs : List Obs) (H : Int) :
    runObsB c T n obs H = ⟨wire c (runObs T n obs H).txs, (runObs T n obs H).ret⟩ :=
  finishB_sim n H (runFromB_sim n obs (beginB_sim c T n))

theorem runObsB_sent (c : Call Req Dest) (T n : Int) (obs : List Obs) (H : Int) :
    (runObsB c T n obs H).sent = wire c (runObs T n obs H).txs := by
  rw [runObsB_eq]

theorem runObsB_erase (c : Call Req Dest) (T n : Int) (obs : List Obs) (H : Int) :
    (runObsB c T n obs H).erase = runObs T n obs H := by
  rw [runObsB_eq, ResultB.erase, wire_map_t]

end Dhcp.Client.Timed
