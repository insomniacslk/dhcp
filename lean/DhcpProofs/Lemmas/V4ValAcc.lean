import DhcpProofs.Lemmas.V4ValLoops
import DhcpProofs.Lemmas.V4ValRelay
/-
  C17 helper lemmas: what it is for a typed accessor to agree with the
  raw bytes (`Reads`), what follows from it for any accessor, and the equation
  itself for the generic getters (any option code) and the accessors that parse
  on their own.  The per-accessor theorems of Props/C17.lean instantiate these.
-/
namespace Dhcp.V4
open Dhcp.Spec

/-- `acc` is a typed accessor of option `c` whose values `spec` interprets: it looks at nothing
but `Options.Get(c)`, returns `ok x` when that is a value `spec` reads as `x`, and `dflt` when
there is no value or `spec` rejects it. -/
def Reads {α β : Type} (acc : GOpts → β) (c : UInt8) (spec : Bytes → Option α) (ok : α → β)
    (dflt : β) : Prop :=
  ∀ o, acc o = ((o.get c).bind spec).elim dflt ok

namespace Reads
variable {α β : Type} {acc : GOpts → β} {c : UInt8} {spec : Bytes → Option α} {ok : α → β}
  {dflt : β} (r : Reads acc c spec ok dflt) {o : GOpts} {v : Bytes}
include r

theorem wf {x : α} (h : o.get c = some v) (hs : spec v = some x) : acc o = ok x := by
  simp [r o, h, hs]

theorem bad (h : o.get c = some v) (hs : spec v = none) : acc o = dflt := by
  simp [r o, h, hs]

theorem absent (h : o.get c = none) : acc o = dflt := by
  simp [r o, h]

/-- never a partial or misaligned value -/
theorem total (o : GOpts) :
    acc o = dflt ∨ ∃ v x, o.get c = some v ∧ spec v = some x ∧ acc o = ok x := by
  cases h : o.get c with
  | none => exact .inl (r.absent h)
  | some v =>
    cases hs : spec v with
    | none => exact .inl (r.bad h hs)
    | some x => exact .inr ⟨v, x, rfl, hs, r.wf h hs⟩

theorem update_ne {k : UInt8} (w : GoBytes) (hk : k ≠ c) : acc (o.update k w) = acc o := by
  rw [r, r, GOpts.get_update_ne o w hk.symm]

theorem set_get {w : Bytes} {x : α} (hs : spec w = some x) : acc (o.update c (some w)) = ok x :=
  r.wf (GOpts.get_update_same ..) hs

end Reads

theorem getIP_reads (c : UInt8) : Reads (getIP c) c Val4.ip some none := by
  intro o; unfold getIP; cases o.get c <;> simp [ipFromBytes_eq]
  cases Val4.ip _ <;> rfl

theorem getIPs_reads (c : UInt8) : Reads (getIPs c) c Val4.ips (fun xs => some (xs.map some)) none := by
  intro o; unfold getIPs; cases o.get c <;> simp [ipsFromBytes_eq]
  cases Val4.ips _ <;> rfl

theorem getString_reads (c : UInt8) : Reads (getString c) c Val4.str id [] := by
  intro o; unfold getString; cases o.get c <;> rfl

theorem getStringTrim_reads (c : UInt8) :
    Reads (fun o => trimRightNul (getString c o)) c Val4.strTrim id [] := by
  intro o; simp only [getString_reads c o, trimRightNul_eq]; cases o.get c <;> rfl

theorem getDuration_reads (c : UInt8) (dflt : Int) :
    Reads (getDuration c · dflt) c Val4.seconds id dflt := by
  intro o; simp only [getDuration]; cases o.get c <;> simp [durationFromBytes_eq]
  cases Val4.seconds _ <;> rfl

theorem getUint16_reads (c : UInt8) : Reads (getUint16 c) c Val4.u16 .ok .err := by
  intro o; unfold getUint16; cases o.get c <;> simp [uint16FromBytes_eq]
  cases Val4.u16 _ <;> rfl

namespace Acc

theorem ipv6OnlyPreferred_reads :
    Reads ipv6OnlyPreferred Code.ipv6OnlyPreferred Val4.seconds (·, true) (0, false) := by
  intro o; unfold ipv6OnlyPreferred; cases o.get _ <;> simp [durationFromBytes_eq]
  cases Val4.seconds _ <;> rfl

theorem autoConfigure_reads : Reads autoConfigure Code.autoConfigure Val4.u8 (·, true) (0, false) := by
  intro o; simp only [autoConfigure, getByte_eq]; cases o.get _ <;> simp
  cases Val4.u8 _ <;> rfl

theorem messageType_reads : Reads messageType Code.messageType Val4.u8 id 0 := by
  intro o; unfold messageType; cases o.get _ <;> simp [messageTypeFromBytes_eq]
  cases Val4.u8 _ <;> rfl

theorem subnetMask_reads : Reads subnetMask Code.subnetMask Val4.mask some none := by
  intro o; unfold subnetMask; cases o.get _ <;> simp [maskFromBytes_eq]
  cases Val4.mask _ <;> rfl

theorem parameterRequestList_reads :
    Reads parameterRequestList Code.parameterRequestList Val4.codes some none := by
  intro o; unfold parameterRequestList; cases o.get _ <;> simp [codesFromBytes_eq, Val4.codes]

theorem clientArch_reads : Reads clientArch Code.clientArch Val4.archs some none := by
  intro o; unfold clientArch; cases o.get _ <;> simp [archsFromBytes_eq]
  cases Val4.archs _ <;> rfl

/-- against the options-field grammar the accessor implements -/
theorem relayAgentInfo_reads :
    Reads relayAgentInfo Code.relayAgentInfo Val4.relayPadEnd (fun m => some ⟨m⟩) none := by
  intro o; unfold relayAgentInfo; cases o.get _ <;> simp [relayFromBytes_eq]
  cases Val4.relayPadEnd _ <;> rfl

/-- a value that is not RFC 3004 is one class: the spec, made total by the fallback -/
theorem userClass_reads :
    Reads userClass Code.userClass (fun v => some ((Val4.userClasses v).getD [v])) some none := by
  intro o; simp only [userClass, getString]; cases o.get _ <;> simp [stringsFromBytes_eq]
  cases Val4.userClasses _ <;> rfl

/-- `Routes.FromBytes` accepts the empty value, as no route at all: the nil slice that results
is what the spec's rejection of the empty value reads as; no other value gives no route -/
theorem classlessStaticRoute_reads :
    Reads classlessStaticRoute Code.classlessStaticRoute Val4.routes
      (fun xs => some (xs.map ofSpecRoute)) none := by
  intro o; unfold classlessStaticRoute
  cases o.get _ with
  | none => rfl
  | some v =>
    match v with
    | [] => rfl
    | w :: r =>
      simp only [routesFromBytes_eq, Option.bind_some, Val4.routes]
      match h : Val4.routeList (w :: r) with
      | none | some (_ :: _) => rfl
      | some [] => cases routeList_eq_nil h

theorem vivc_reads : Reads vivc Code.vivc Val4.vivc (fun xs => some (xs.map ofSpecVIVC)) none := by
  intro o; unfold vivc
  cases o.get _ with
  | none => rfl
  | some v =>
    match v with
    | [] => rfl
    | a :: r =>
      simp only [vivcFromBytes_eq, Option.bind_some, Val4.vivc]
      match h : Val4.vendorClasses (a :: r) with
      | none | some (_ :: _) => rfl
      | some [] => cases vendorClasses_eq_nil h

end Acc
end Dhcp.V4
