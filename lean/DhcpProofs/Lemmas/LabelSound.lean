import DhcpProofs.Lemmas.LabelSpec
/-
  Soundness of the model of `labelsFromBytes` against `Dhcp.Spec.Name`:
  whatever the loop returns without error is an RFC reading of the buffer.
  The loop state is given its meaning in the specification's terms (`Reading`:
  which labels of the current name have been read, and from where), and that
  meaning is carried through the iterations (`Iter`).
-/
namespace Dhcp.Label
open Dhcp.Spec.Name

theorem labelSeq_snoc {bs tail : Bytes} {ls : List Bytes} {l : Bytes}
    (h : LabelSeq bs ls (UInt8.ofNat l.length :: (l ++ tail))) (h1 : 1 ≤ l.length) (h2 : l.length ≤ 63) :
    LabelSeq bs (ls ++ [l]) tail := by
  generalize hr : UInt8.ofNat l.length :: (l ++ tail) = rest at h
  induction h with
  | nil _ => subst hr; exact .cons l [] tail tail h1 h2 (.nil tail)
  | cons l' ls' tail' _ h1' h2' _ ih => exact .cons l' _ tail' tail h1' h2' (ih hr)

/-- a run of labels is at least as long on the wire as in dotted form: every
label brings its length octet, and every dot stands for one of them (a non-empty
run has one length octet more than dots: the `+ 1`) -/
theorem labelSeq_length {bs rest : Bytes} {ls : List Bytes} (h : LabelSeq bs ls rest) :
    (dotted ls).length + rest.length + (if ls = [] then 0 else 1) ≤ bs.length ∧
      ∃ pre, bs = pre ++ rest := by
  induction h with
  | nil rest => exact ⟨by simp [dotted], [], rfl⟩
  | cons l ls tail rest _ _ _ ih =>
    obtain ⟨ih, pre, rfl⟩ := ih
    refine ⟨?_, UInt8.ofNat l.length :: (l ++ pre), by simp⟩
    cases ls with
    | nil => simp [dotted] at ih ⊢
    | cons l' ls => simp [dotted] at ih ⊢; omega

/-- `Reading msg s bs`: the loop in state `s` is inside a name that began at the suffix `bs` of some
earlier position: it has read the labels `ls` from there (`main`), or read `ls`, followed a pointer
found after them and read `ls'` at its target (`ptr`). -/
inductive Reading (msg : Bytes) : St → Bytes → Prop
  | main {bs : Bytes} {ls : List Bytes} {pos op : Nat} {acc : List Bytes} :
      LabelSeq bs ls (msg.drop pos) → (dotted ls).length ≤ maxDotted →
      Reading msg ⟨pos, op, dotted ls, false, acc⟩ bs
  | ptr {bs : Bytes} {ls ls' : List Bytes} {b0 b1 : UInt8} {pos op : Nat} {acc : List Bytes} :
      LabelSeq bs ls (b0 :: b1 :: msg.drop op) → IsPtr b0 →
      LabelSeq (msg.drop (ptrOffset b0 b1)) ls' (msg.drop pos) → (dotted (ls ++ ls')).length ≤ maxDotted →
      Reading msg ⟨pos, op, dotted (ls ++ ls'), true, acc⟩ bs

theorem loop_sound (msg : Bytes) : ∀ (f : Nat) (s : St) (bs : Bytes) (r : List Bytes),
    Reading msg s bs → loop msg f s = some (.ok r) → ∃ ns, r = s.labels ++ ns ∧ Names msg bs ns := by
  intro f
  induction f with
  | zero => intro s bs r _ h; simp [loop] at h
  | succ f ih =>
    intro s bs r hs h
    rw [loop_succ] at h
    cases hstep : step msg s with
    | done r' =>
      rw [hstep] at h
      cases h
      obtain ⟨hd, hhp, hr⟩ := step_ok_iff.mp hstep
      cases hs with
      | ptr => cases hhp
      | @main bs ls pos op acc hseq hlen =>
        rw [hd] at hseq
        by_cases hnil : ls = []
        · subst hnil
          cases hseq
          exact ⟨[], by simp [hr, dotted], .done⟩
        · have hne : dotted ls ≠ [] := fun e => hnil ((dotted_eq_nil (labelSeq_nonempty hseq)).mp e)
          exact ⟨[dotted ls], by simp [hr, hne], .partialName bs ls hnil hseq hlen⟩
    | next s' =>
      rw [hstep] at h
      have hn := hstep ▸ step_iter msg s
      cases hs with
      | @main bs ls pos op acc hseq hlen =>
        cases hn with
        | zeroPtr _ hhp => cases hhp
        | @zero t hd _ =>
          obtain ⟨ns, hr, hns⟩ := ih _ _ r (.main (ls := []) (.nil _) (by simp [dotted])) h
          rw [drop_cons_succ hd] at hns
          rw [hd] at hseq
          exact ⟨dotted ls :: ns, by simp [hr], .plain bs ls t ns hseq hlen hns⟩
        | @ptr b b1 t hd hb _ =>
          rw [hd, ← drop_cons_succ (drop_cons_succ hd)] at hseq
          have := Reading.ptr (acc := acc) hseq hb (.nil _) (by rwa [List.append_nil])
          rw [List.append_nil] at this
          exact (ih _ _ r this h :)
        | @label l t hd h1 h2 h3 =>
          rw [hd] at hseq
          have hseq' := labelSeq_snoc hseq h1 h2
          rw [← drop_add_of_append (drop_cons_succ hd)] at hseq'
          rw [appendLabel_dotted (labelSeq_nonempty hseq)] at h h3
          exact (ih _ _ r (.main hseq' h3) h :)
      | @ptr bs ls ls' b0 b1 pos op acc hseq hb0 hseq' hlen =>
        cases hn with
        | zero _ hhp => cases hhp
        | ptr _ _ hhp => cases hhp
        | @zeroPtr t hd _ =>
          obtain ⟨ns, hr, hns⟩ := ih _ _ r (.main (ls := []) (.nil _) (by simp [dotted])) h
          rw [hd] at hseq'
          have hoff : ptrOffset b0 b1 < msg.length := by
            have := (labelSeq_length hseq').1
            simp at this; omega
          exact ⟨dotted (ls ++ ls') :: ns, by simp [hr],
            .ptr bs ls b0 b1 _ ls' t ns hseq hb0 hoff hseq' hlen hns⟩
        | @label l t hd h1 h2 h3 =>
          rw [hd] at hseq'
          have hseq'' := labelSeq_snoc hseq' h1 h2
          rw [← drop_add_of_append (drop_cons_succ hd)] at hseq''
          have hne : ∀ x ∈ ls ++ ls', x ≠ [] := fun x hx =>
            (List.mem_append.mp hx).elim (labelSeq_nonempty hseq x) (labelSeq_nonempty hseq' x)
          rw [appendLabel_dotted hne, List.append_assoc] at h h3
          exact (ih _ _ r (.ptr hseq hb0 hseq'' h3) h :)

theorem names_sound {msg : Bytes} {pos op : Nat} {acc r : List Bytes}
    (h : Runs msg ⟨pos, op, [], false, acc⟩ (.ok r)) : ∃ ns, r = acc ++ ns ∧ Names msg (msg.drop pos) ns :=
  h.elim fun f hf => loop_sound msg f _ _ r (.main (ls := []) (.nil _) (Nat.zero_le _)) hf

end Dhcp.Label
