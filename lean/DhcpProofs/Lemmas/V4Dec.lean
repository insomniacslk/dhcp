import Dhcp.Spec.Wire4
import DhcpProofs.Lemmas.Basic
/- `dec4` on the fixed BOOTP header + cookie, computed three ways: on an input laid out as the
header fields followed by the options (`dec4_layout`, what the round trip needs), on every buffer
too short to hold them (`dec4_short`), and on any buffer that holds them, in terms of its slices
(`dec4_of_len`, what the comparison with the grammar `Spec.Parses4` needs). -/
namespace Dhcp
open Dhcp.Spec

namespace Lexer

theorem consume_drop {b : Bytes} {k n : Nat} (e : Bool) (h : k + n ≤ b.length) :
    consume ⟨b.drop k, e⟩ n = (some (slice b k (k + n)), ⟨b.drop (k + n), e⟩) := by
  simp [consume, slice, show n ≤ b.length - k by omega]

theorem read8_drop {b : Bytes} {k : Nat} (e : Bool) (h : k + 1 ≤ b.length) :
    read8 ⟨b.drop k, e⟩ = ((slice b k (k + 1)).headD 0, ⟨b.drop (k + 1), e⟩) := by
  rw [read8, consume_drop e h]
  cases slice b k (k + 1) <;> rfl

theorem read16_drop {b : Bytes} {k : Nat} (e : Bool) (h : k + 2 ≤ b.length) :
    read16 ⟨b.drop k, e⟩ = (beNat (slice b k (k + 2)), ⟨b.drop (k + 2), e⟩) := by
  rw [read16, consume_drop e h]

theorem readBytes_drop {b : Bytes} {k n : Nat} (e : Bool) (h : k + n ≤ b.length) :
    readBytes ⟨b.drop k, e⟩ n = (slice b k (k + n), ⟨b.drop (k + n), e⟩) := by
  rw [readBytes, consume_drop e h]

theorem copyN_drop {b : Bytes} {k n : Nat} (e : Bool) (h : k + n ≤ b.length) :
    copyN ⟨b.drop k, e⟩ n = (some (slice b k (k + n)), ⟨b.drop (k + n), e⟩) := consume_drop e h

end Lexer

namespace V4

theorem slice_length (b : Bytes) (i j : Nat) (h : j ≤ b.length) : (slice b i j).length = j - i := by
  unfold slice; simp [List.length_take]; omega

theorem dec4_layout {op ht hl hops : UInt8} {xid ci yi si gi chaddr sname file cookie rest : Bytes}
    {secs flags : Nat} (hx : xid.length = 4) (hs : secs < 65536) (hf : flags < 65536)
    (hci : ci.length = 4) (hyi : yi.length = 4) (hsi : si.length = 4) (hgi : gi.length = 4)
    (hch : chaddr.length = 16) (hsn : sname.length = 64) (hfl : file.length = 128)
    (hck : cookie.length = 4) :
    dec4 (op :: ht :: hl :: hops :: (xid ++ (be16 secs ++ (be16 flags ++ (ci ++ (yi ++ (si ++ (gi ++
      (chaddr ++ (sname ++ (file ++ (cookie ++ rest)))))))))))) =
    if cookie ≠ magicCookie then .err
    else match optsFromBytes Opts.empty rest true with
      | none => .err
      | some o =>
        .ok { op := op, htype := ht.toNat, hw := chaddr.take (if hl.toNat > 16 then 16 else hl.toNat),
              hops := hops, xid := xid, secs := secs, flags := flags, ciaddr := some ci,
              yiaddr := some yi, siaddr := some si, giaddr := some gi, sname := cutNul sname,
              file := cutNul file, opts := o } := by
  simp only [dec4, Lexer.new, Lexer.read8_cons, Lexer.readBytes_append _ _ _ hx.symm,
    Lexer.read16_append _ hs, Lexer.read16_append _ hf, Lexer.copyN_append _ _ _ hci.symm,
    Lexer.copyN_append _ _ _ hyi.symm, Lexer.copyN_append _ _ _ hsi.symm, Lexer.copyN_append _ _ _ hgi.symm,
    Lexer.readBytes_append _ _ _ hch.symm, Lexer.readBytes_append _ _ _ hsn.symm,
    Lexer.readBytes_append _ _ _ hfl.symm, Lexer.readBytes_append _ _ _ hck.symm, Lexer.error,
    Bool.false_eq_true, if_false]
  split <;> rfl

-- By eta for pairs, `dec4`'s chain `let (v, l) := l.read..; ..` is a term in the `.1`/`.2` of the reads that
-- ends in `if l.error then .err else ..` on the Lexer `i` below speaks of, so `if_pos` applies as it stands.
-- The readers are sealed so that the unifier compares the two chains structurally; unfolding them, it
-- does not finish.
attribute [local irreducible] Lexer.read8 Lexer.read16 Lexer.readBytes Lexer.copyN in
theorem dec4_short (b : Bytes) (h : b.length < 240) : dec4 b = .err := by
  -- the Lexer after the fifteen header reads, whatever they returned
  have i := readBytes_inv b _ 236 4 (readBytes_inv b _ 108 128 (readBytes_inv b _ 44 64
    (readBytes_inv b _ 28 16 (copyN_inv b _ 24 4 (copyN_inv b _ 20 4 (copyN_inv b _ 16 4
    (copyN_inv b _ 12 4 (read16_inv b _ 10 (read16_inv b _ 8 (readBytes_inv b _ 4 4
    (read8_inv b _ 3 (read8_inv b _ 2 (read8_inv b _ 1 (read8_inv b _ 0 (LInv_new b)))))))))))))))
  exact if_pos (LInv_err i h)

/-- the packet `FromBytes` returns on a buffer with a complete header whose options area decodes to `o` -/
def hdr4 (b : Bytes) (o : Opts) : Pkt4 :=
  { op := (slice b 0 1).headD 0, htype := beNat (slice b 1 2),
    hw := (slice b 28 44).take (min (beNat (slice b 2 3)) 16),
    hops := (slice b 3 4).headD 0, xid := slice b 4 8, secs := beNat (slice b 8 10),
    flags := beNat (slice b 10 12), ciaddr := some (slice b 12 16),
    yiaddr := some (slice b 16 20), siaddr := some (slice b 20 24),
    giaddr := some (slice b 24 28), sname := cutNul (slice b 44 108),
    file := cutNul (slice b 108 236), opts := o }

theorem toNat_headD {l : Bytes} (h : l.length = 1) : (l.headD 0).toNat = beNat l := by
  obtain ⟨x, rfl⟩ := List.length_eq_one_iff.mp h; simp [beNat]

theorem dec4_of_len (b : Bytes) (h : 240 ≤ b.length) :
    dec4 b =
      if slice b 236 240 ≠ magicCookie then .err
      else match optsFromBytes Opts.empty (b.drop 240) true with
        | none => .err
        | some o => .ok (hdr4 b o) := by
  have h0 : Lexer.new b = ⟨b.drop 0, false⟩ := rfl
  simp (disch := omega) only [dec4, h0, Lexer.read8_drop, Lexer.read16_drop, Lexer.readBytes_drop,
    Lexer.copyN_drop, Nat.reduceAdd, Lexer.error, Bool.false_eq_true, if_false]
  -- what is left is `htype` and the length of `hw`, which `FromBytes` takes from single octets
  rw [toNat_headD (slice_length b 1 2 (by omega)), toNat_headD (slice_length b 2 3 (by omega)),
    show ∀ x, (if x > 16 then 16 else x) = min x 16 from fun x => by split <;> omega]
  rfl

end V4
end Dhcp
