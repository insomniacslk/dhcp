import Dhcp.Spec.Wire6
import DhcpProofs.Lemmas.V6Basic
/-
  What the leaf decoder `decSimple` computes: its dispatch by option code as
  equations, and the three item loops on the encoder's output.
-/
namespace Dhcp.V6
open Dhcp.Spec

theorem decSimple_6 (data : Bytes) : decSimple 6 data =
    (let (cs, l) := u16Loop (data.length + 1) ⟨data, false⟩ []
     fin l (.oro (dedup [] cs))) := by simp [decSimple, Lexer.new]

theorem decSimple_8 (data : Bytes) : decSimple 8 data =
    (let (t, l) := Lexer.read16 ⟨data, false⟩
     fin l (.elapsed ((t : Int) * tenMs))) := by simp [decSimple, Lexer.new]

theorem decSimple_13 (data : Bytes) : decSimple 13 data =
    (let (c, l) := Lexer.read16 ⟨data, false⟩
     let (m, l) := l.readAll
     fin l (.status c m)) := by simp [decSimple, Lexer.new]

theorem decSimple_15 (data : Bytes) : decSimple 15 data =
    (if data.length = 0 then .err
     else
       let (cls, l) := lenPrefLoop (data.length + 1) ⟨data, false⟩ []
       fin l (.userClass cls)) := by simp [decSimple, Lexer.new]

theorem decSimple_16 (data : Bytes) : decSimple 16 data =
    (let (en, l) := Lexer.read32 ⟨data, false⟩
     let (ds, l) := lenPrefLoop (data.length + 1) l []
     if ds.length = 0 then .err else fin l (.vendorClass en ds)) := by simp [decSimple, Lexer.new]

theorem decSimple_17 (data : Bytes) : decSimple 17 data =
    (let (en, l) := Lexer.read32 ⟨data, false⟩
     let (rest, l) := l.readAll
     match optionsFromBytes (fun c d => Res.ok (c, d)) rest with
     | .ok os => fin l (.vendorOpts en os)
     | .err => .err
     | .panic => .panic) := by simp [decSimple, Lexer.new]; rfl

theorem decSimple_18 (data : Bytes) : decSimple 18 data = .ok (.interfaceID data) := by
  simp [decSimple]

theorem decSimple_23 (data : Bytes) : decSimple 23 data =
    (let (ips, l) := ip16Loop (data.length + 1) ⟨data, false⟩ []
     fin l (.dns ips)) := by simp [decSimple, Lexer.new]

theorem decSimple_24 (data : Bytes) : decSimple 24 data =
    (match Label.fromBytes data with
     | .ok lb => .ok (.domainSearch lb)
     | .err => .err
     | .panic => .panic) := by simp [decSimple]; rfl

theorem decSimple_32 (data : Bytes) : decSimple 32 data =
    (let (d, l) := decDur ⟨data, false⟩
     fin l (.infoRefresh d)) := by simp [decSimple, Lexer.new]

theorem decSimple_37 (data : Bytes) : decSimple 37 data =
    (let (en, l) := Lexer.read32 ⟨data, false⟩
     let (id, l) := l.readAll
     fin l (.remoteID en id)) := by simp [decSimple, Lexer.new]

theorem decSimple_39 (data : Bytes) : decSimple 39 data =
    (let (f, l) := Lexer.read8 ⟨data, false⟩
     let (rest, l) := l.readAll
     match Label.fromBytes rest with
     | .ok lb => fin l (.fqdn f lb)
     | .err => .err
     | .panic => .panic) := by simp [decSimple, Lexer.new]; rfl

theorem decSimple_56 (data : Bytes) : decSimple 56 data =
    (match optionsFromBytes parseNTPSub data with
     | .ok subs => .ok (.ntp subs)
     | .err => .err
     | .panic => .panic) := by simp [decSimple]; rfl

theorem decSimple_59 (data : Bytes) : decSimple 59 data = .ok (.bootfileURL data) := by
  simp [decSimple]

theorem decSimple_60 (data : Bytes) : decSimple 60 data =
    (let (ps, l) := lenPrefLoop (data.length + 1) ⟨data, false⟩ []
     fin l (.bootfileParam ps)) := by simp [decSimple, Lexer.new]

theorem decSimple_61 (data : Bytes) : decSimple 61 data =
    (if data.length = 0 then .err
     else
       let (as, l) := u16Loop (data.length + 1) ⟨data, false⟩ []
       fin l (.archType as)) := by simp [decSimple, Lexer.new]

theorem decSimple_62 (data : Bytes) : decSimple 62 data =
    (let (t, l) := Lexer.read8 ⟨data, false⟩
     let (ma, l) := l.read8
     let (mi, l) := l.read8
     fin l (.nii t ma mi)) := by simp [decSimple, Lexer.new]

theorem decSimple_79 (data : Bytes) : decSimple 79 data =
    (let (ht, l) := Lexer.read16 ⟨data, false⟩
     let (a, l) := l.readAll
     fin l (.clientLLA ht a)) := by simp [decSimple, Lexer.new]

theorem decSimple_87 (data : Bytes) : decSimple 87 data =
    (match V4.dec4 data with
     | .ok p => .ok (.dhcpv4Msg p)
     | .err => .err
     | .panic => .panic) := by
  simp [decSimple]; generalize V4.dec4 data = r; cases r <;> rfl

theorem decSimple_88 (data : Bytes) : decSimple 88 data =
    (let (ips, l) := ip16Loop (data.length + 1) ⟨data, false⟩ []
     fin l (.dhcp4o6Server ips)) := by simp [decSimple, Lexer.new]

theorem decSimple_98 (data : Bytes) : decSimple 98 data =
    (let (p4len, l) := Lexer.read8 ⟨data, false⟩
     let (p6len, l) := l.read8
     if p4len.toNat > 32 || p6len.toNat > 128 then .err
     else
       let (ea, l) := l.read8
       let (fl, l) := l.read8
       let (p4, l) := l.copyN 4
       let (p6, l) := l.copyN 16
       fin l (.fourRDMapRule p4len.toNat p4 p6len.toNat p6 ea (fl &&& 128 != 0))) := by
  simp [decSimple, Lexer.new]

theorem decSimple_99 (data : Bytes) : decSimple 99 data =
    (let (fl, l) := Lexer.read8 ⟨data, false⟩
     let (tc, l) := l.read8
     let (pmtu, l) := l.read16
     fin l (.fourRDNonMapRule (fl &&& 128 != 0) (if fl &&& 1 != 0 then some tc else none) pmtu)) := by
  simp [decSimple, Lexer.new]

theorem decSimple_135 (data : Bytes) : decSimple 135 data =
    (let (p, l) := Lexer.read16 ⟨data, false⟩
     fin l (.relayPort p)) := by simp [decSimple, Lexer.new]

theorem read16_all (v : Nat) (h : v < 65536) (e : Bool) :
    Lexer.read16 ⟨be16 v, e⟩ = (v, ⟨[], e⟩) := by
  have := Lexer.read16_append v h [] e
  simpa using this

theorem read32_all (v : Nat) (h : v < 4294967296) (e : Bool) :
    Lexer.read32 ⟨be32 v, e⟩ = (v, ⟨[], e⟩) := by
  have := Lexer.read32_append v h [] e
  simpa using this

theorem copyN_all (xs : Bytes) (e : Bool) {n : Nat} (h : n = xs.length) :
    Lexer.copyN ⟨xs, e⟩ n = (some xs, ⟨[], e⟩) := by
  have := Lexer.copyN_append xs [] e h
  simpa using this

theorem u16Loop_flatMap : ∀ (cs : List Nat) (fuel : Nat) (acc : List Nat),
    (∀ c ∈ cs, c < 65536) → (cs.flatMap be16).length < fuel →
    u16Loop fuel ⟨cs.flatMap be16, false⟩ acc = (acc ++ cs, ⟨[], false⟩)
  | _, 0, _, _, hf => absurd hf (Nat.not_lt_zero _)
  | [], _ + 1, _, _, _ => by simp [u16Loop, Lexer.has]
  | c :: cs, f + 1, acc, h, hf => by
    have hc := h c (by simp)
    have hhas : Lexer.has ⟨be16 c ++ cs.flatMap be16, false⟩ 2 = true := by simp [Lexer.has]
    rw [List.flatMap_cons] at hf ⊢
    rw [u16Loop]
    simp only [hhas, if_true, Lexer.read16_append c hc]
    rw [u16Loop_flatMap cs f (acc ++ [c]) (fun y hy => h y (by simp [hy])) (by
      simp only [List.length_append, be16_length] at hf; omega)]
    simp

theorem flatMap_be16_length (cs : List Nat) : (cs.flatMap be16).length = 2 * cs.length := by
  induction cs with
  | nil => simp
  | cons c cs ih => simp only [List.flatMap_cons, List.length_append, be16_length, List.length_cons, ih]; omega

theorem lenPref_nil_of_nil {xs : List Bytes} (h : lenPref xs = []) : xs = [] := by
  cases xs with
  | nil => rfl
  | cons x xs => rw [lenPref_cons] at h; simp [be16] at h

theorem lenPrefLoop_lenPref : ∀ (xs : List Bytes) (fuel : Nat) (acc : List Bytes),
    ItemsOK xs → (lenPref xs).length < fuel →
    lenPrefLoop fuel ⟨lenPref xs, false⟩ acc = (acc ++ xs, ⟨[], false⟩)
  | _, 0, _, _, hf => absurd hf (Nat.not_lt_zero _)
  | [], _ + 1, _, _, _ => by simp [lenPrefLoop, lenPref, Lexer.has]
  | x :: xs, f + 1, acc, h, hf => by
    have hx : x.length < 65536 := h x (by simp)
    have hhas : Lexer.has ⟨be16 x.length ++ (x ++ lenPref xs), false⟩ 2 = true := by simp [Lexer.has]
    rw [lenPref_cons] at hf ⊢
    rw [lenPrefLoop]
    simp only [hhas, if_true, Lexer.read16_append x.length hx,
      Lexer.copyN_append x (lenPref xs) false rfl, Option.getD_some]
    rw [lenPrefLoop_lenPref xs f (acc ++ [x]) (fun y hy => h y (by simp [hy])) (by
      simp only [List.length_append, be16_length] at hf; omega)]
    simp

theorem ip16Loop_flatMap : ∀ (ips : List IP) (fuel : Nat) (acc : List IP),
    (∀ ip ∈ ips, IP16 ip) → (ips.flatMap writeTo16).length < fuel →
    ip16Loop fuel ⟨ips.flatMap writeTo16, false⟩ acc = (acc ++ ips, ⟨[], false⟩)
  | _, 0, _, _, hf => absurd hf (Nat.not_lt_zero _)
  | [], _ + 1, _, _, _ => by simp [ip16Loop, Lexer.has]
  | ip :: ips, f + 1, acc, h, hf => by
    obtain ⟨b, rfl, hb, hw⟩ := writeTo16_ip16 (h ip (by simp))
    have hhas : Lexer.has ⟨b ++ ips.flatMap writeTo16, false⟩ 16 = true := by simp [Lexer.has, hb]
    rw [List.flatMap_cons, hw] at hf ⊢
    rw [ip16Loop]
    simp only [hhas, if_true, Lexer.copyN_append b (ips.flatMap writeTo16) false hb.symm]
    rw [ip16Loop_flatMap ips f (acc ++ [some b]) (fun y hy => h y (by simp [hy])) (by
      simp only [List.length_append] at hf; omega)]
    simp

/-- codes with a dedicated branch in `decSimple` -/
def simpleCodes : List Nat :=
  [6, 8, 13, 15, 16, 17, 18, 23, 24, 32, 37, 39, 56, 59, 60, 61, 62, 79, 87, 88, 98, 99, 135]

theorem decSimple_other (c : Nat) (data : Bytes) (h : c ∉ simpleCodes) :
    decSimple c data = .ok (.generic c data) := by
  simp only [simpleCodes, List.mem_cons, List.mem_nil_iff, or_false, not_or] at h
  obtain ⟨h6, h8, h13, h15, h16, h17, h18, h23, h24, h32, h37, h39, h56, h59,
    h60, h61, h62, h79, h87, h88, h98, h99, h135⟩ := h
  simp only [decSimple, h6, h8, h13, h15, h16, h17, h18, h23, h24, h32, h37, h39, h56, h59, h60, h61,
    h62, h79, h87, h88, h98, h99, h135, if_false]

theorem decSimple_generic (c : Nat) (data : Bytes) (h : c ∉ knownCodes) :
    decSimple c data = .ok (.generic c data) :=
  decSimple_other c data fun hs => h ((by decide : ∀ c ∈ simpleCodes, c ∈ knownCodes) c hs)

theorem not_mem_knownCodes {c : Nat} (h1 : c ∉ containerCodes) (h2 : c ∉ simpleCodes) :
    c ∉ knownCodes :=
  fun h => ((by decide : ∀ c ∈ knownCodes, c ∈ containerCodes ∨ c ∈ simpleCodes) c h).elim h1 h2

theorem containerCodes_known {c : Nat} (h : c ∈ containerCodes) : c ∈ knownCodes :=
  (by decide : ∀ c ∈ containerCodes, c ∈ knownCodes) c h

theorem filter_itemsOK (ps : List Bytes) (h : ItemsOK ps) :
    ps.filter (fun p => decide (p.length < 65536)) = ps := by
  apply List.filter_eq_self.mpr
  intro p hp
  simp [h p hp]

end Dhcp.V6
