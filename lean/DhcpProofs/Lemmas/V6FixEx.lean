import DhcpProofs.Lemmas.V6Fix
/-
  Witnesses around the C06/v6 fixpoint: accepted DHCPv6 messages with an
  embedded DHCPv4 message (option 87), built from the closed form
  `V4.dec4_layout` and the grammar constructors (no evaluation of the decoder on
  long literals).  They show that both side conditions of `v6_fixpoint` are
  needed: a 64-byte NUL-free sname (`NamesOK` fails) and a container that
  outgrows its 16-bit length when the inner DHCPv4 message is re-padded to 300
  bytes (`FitsLen` fails).
-/
namespace Dhcp.V6
open Dhcp.Spec

/-- BOOTREQUEST, Ethernet, all-zero addresses, the given server-name field, no options -/
def v4w (sn : Bytes) : Bytes :=
  1 :: 1 :: 6 :: 0 :: (zeros 4 ++ (be16 0 ++ (be16 0 ++ (zeros 4 ++ (zeros 4 ++ (zeros 4 ++ (zeros 4 ++
    (zeros 16 ++ (sn ++ (zeros 128 ++ (V4.magicCookie ++ [255])))))))))))

def p4w (sn : Bytes) : V4.Pkt4 :=
  { op := 1, htype := 1, hw := zeros 6, hops := 0, xid := zeros 4, secs := 0, flags := 0,
    ciaddr := some (zeros 4), yiaddr := some (zeros 4), siaddr := some (zeros 4), giaddr := some (zeros 4),
    sname := cutNul sn, file := [], opts := V4.Opts.empty }

theorem v4w_length (sn : Bytes) (h : sn.length = 64) : (v4w sn).length = 241 := by
  simp [v4w, V4.magicCookie, h]

theorem dec4_v4w (sn : Bytes) (h : sn.length = 64) : V4.dec4 (v4w sn) = .ok (p4w sn) := by
  unfold v4w
  rw [V4.dec4_layout (zeros_length 4) (Nat.zero_lt_succ _) (Nat.zero_lt_succ _) (zeros_length 4)
    (zeros_length 4) (zeros_length 4) (zeros_length 4) (zeros_length 16) h (zeros_length 128)
    (cookie := V4.magicCookie) rfl]
  have h1 : V4.optsFromBytes V4.Opts.empty [255] true = some V4.Opts.empty := rfl
  have h3 : cutNul (zeros 128) = [] := by decide
  have h4 : (zeros 16).take (if (6 : UInt8).toNat > 16 then 16 else (6 : UInt8).toNat) = zeros 6 := by
    decide
  simp only [ne_eq, not_true_eq_false, if_false, h1, h3, h4]
  rfl

/-- The packet is a variable:
with the concrete `p4w sn` in its place the kernel unfolds `marshalOpts` on the empty map (a sweep
over all 256 codes) while checking the rewriting steps. -/
theorem enc4Bytes_length_noopts {p : V4.Pkt4} {ci yi si gi : Bytes} (h1 : V4.writeIP p.ciaddr = .ok ci)
    (h2 : V4.writeIP p.yiaddr = .ok yi) (h3 : V4.writeIP p.siaddr = .ok si) (h4 : V4.writeIP p.giaddr = .ok gi)
    (hl : ci.length + yi.length + si.length + gi.length = 16) (hm : V4.marshalOpts p.opts = []) :
    (enc4Bytes p).length = 300 := by
  simp only [enc4Bytes, V4.enc4, h1, h2, h3, h4, hm, bind, Res.bind, pure, V4.nameField, copyInto_length,
    List.length_append, List.length_cons, List.length_nil, zeros_length, be16_length, V4.chaddrLen,
    V4.snameCap, V4.fileCap, V4.magicCookie, V4.bootpMinLen]
  omega

/-- the re-encoding is padded to the BOOTP minimum: 300 bytes (59 more than `v4w`) -/
theorem enc4_p4w_length (sn : Bytes) : (enc4Bytes (p4w sn)).length = 300 :=
  enc4Bytes_length_noopts (ci := zeros 4) (yi := zeros 4) (si := zeros 4) (gi := zeros 4) rfl rfl rfl rfl rfl
    V4.marshalOpts_empty

theorem popt_v4w (sn : Bytes) (h : sn.length = 64) : POpt 87 (v4w sn) (.dhcpv4Msg (p4w sn)) :=
  .leaf (by decide) (by rw [decSimple_87, dec4_v4w sn h])

def snFull : Bytes := List.replicate 64 97
def snShort : Bytes := 97 :: zeros 63

theorem cutNul_snFull : cutNul snFull = snFull := by decide
theorem cutNul_snShort : cutNul snShort = [97] := by decide

def b6w (sn : Bytes) : Bytes := 1 :: ([0, 0, 0] ++ (tlv 87 (v4w sn) ++ []))
def m6w (sn : Bytes) : Msg6 := .msg 1 [0, 0, 0] [.dhcpv4Msg (p4w sn)]

theorem pmsg_b6w (sn : Bytes) (h : sn.length = 64) : PMsg (b6w sn) (m6w sn) :=
  .msg (by decide) rfl
    (.cons (by decide) (by rw [v4w_length sn h]; decide) (popt_v4w sn h) .nil)

theorem dec6_b6w (sn : Bytes) (h : sn.length = 64) : dec6 (b6w sn) = .ok (m6w sn) :=
  (dec6_iff _ _).mpr (pmsg_b6w sn h)

theorem fitsLen_m6w (sn : Bytes) : FitsLenM (m6w sn) := by
  simp only [m6w, FitsLenM, FitsLenL, FitsLen, encOpt, enc4_p4w_length, and_true]
  intro _; decide

theorem namesOK_m6w_short : NamesOKM (m6w snShort) := by
  simp only [m6w, NamesOKM, NamesOKL, NamesOK, p4w, cutNul_snShort, and_true]
  decide

theorem not_namesOK_m6w_full : ¬ NamesOKM (m6w snFull) := by
  simp only [m6w, NamesOKM, NamesOKL, NamesOK, p4w, cutNul_snFull, and_true]
  decide

/-- the exact fixpoint fails for an embedded DHCPv4 message whose 64-byte
sname has no NUL: the re-decoded message carries the 63-byte name -/
theorem v6_full_false : ¬ ∀ b m, dec6 b = .ok m → dec6 (encMsg m) = .ok m := by
  intro hfull
  have hd := dec6_b6w snFull rfl
  have h1 := hfull _ _ hd
  have h2 := (v6_fixpoint_norm _ _ hd (fitsLen_m6w snFull)).1
  rw [h1] at h2
  simp only [m6w, cutNames6, cutOpts, cutOpt, Res.ok.injEq, Msg6.msg.injEq, List.cons.injEq,
    Opt6.dhcpv4Msg.injEq, and_true, true_and] at h2
  have h3 := congrArg (fun p : V4.Pkt4 => p.sname.length) h2
  simp only [V4.cutNames, p4w, cutNul_snFull] at h3
  revert h3
  decide

/-! The 65250 padding bytes stay a variable `pad` until the last step, so that no
proof term makes the kernel walk a 65250-element list. -/

/-- value of an IA_TA option holding the DHCPv4 message and an unknown option with value `pad` -/
def iataVal (sn pad : Bytes) : Bytes := zeros 4 ++ (tlv 87 (v4w sn) ++ (tlv 4242 pad ++ []))
def b6big (sn pad : Bytes) : Bytes := 1 :: ([0, 0, 0] ++ (tlv 4 (iataVal sn pad) ++ []))
def m6big (sn pad : Bytes) : Msg6 :=
  .msg 1 [0, 0, 0] [.iata (zeros 4) [.dhcpv4Msg (p4w sn), .generic 4242 pad]]

theorem iataVal_length (sn pad : Bytes) (h : sn.length = 64) (hp : pad.length = 65250) :
    (iataVal sn pad).length = 65503 := by
  simp only [iataVal, List.length_append, tlv_length, v4w_length sn h, hp, zeros_length,
    List.length_nil]

theorem pmsg_b6big (sn pad : Bytes) (h : sn.length = 64) (hp : pad.length = 65250) :
    PMsg (b6big sn pad) (m6big sn pad) := by
  refine .msg (by decide) rfl (.cons (by decide) (by rw [iataVal_length sn pad h hp]; decide) ?_ .nil)
  refine .iata (by simp) ?_
  refine .cons (by decide) (by rw [v4w_length sn h]; decide) (popt_v4w sn h) ?_
  refine .cons (by decide) (by rw [hp]; decide) ?_ .nil
  exact generic_accepted _ (by decide)

theorem dec6_b6big (sn pad : Bytes) (h : sn.length = 64) (hp : pad.length = 65250) :
    dec6 (b6big sn pad) = .ok (m6big sn pad) :=
  (dec6_iff _ _).mpr (pmsg_b6big sn pad h hp)

theorem namesOK_m6big_short (pad : Bytes) : NamesOKM (m6big snShort pad) := by
  simp only [m6big, NamesOKM, NamesOKL, NamesOK, p4w, cutNul_snShort, and_true]
  decide

theorem encMsg_m6big_length (sn pad : Bytes) (hp : pad.length = 65250) :
    (encMsg (m6big sn pad)).length = 65570 := by
  simp only [m6big, encMsg, encOpts, encOpt, Opt6.code, List.length_cons, List.length_append,
    tlv_length, copyInto_length, enc4_p4w_length, hp, List.length_nil]

theorem POpts_length {d : Bytes} {os : List Opt6} (h : POpts d os) : d.length ≤ os.length * 65539 := by
  have ht := Tiles_of_POpts h
  clear h
  induction ht with
  | nil => simp
  | cons _ hv _ _ ih =>
    simp only [List.length_append, tlv_length, List.length_cons]
    omega

theorem PMsg_msg_length {b : Bytes} {t : UInt8} {x : Bytes} {os : List Opt6}
    (h : PMsg b (.msg t x os)) : b.length ≤ 4 + os.length * 65539 := by
  cases h with
  | msg _ hx hs =>
    have := POpts_length hs
    simp only [List.length_cons, List.length_append, hx]; omega

theorem names_only_false_of (pad : Bytes) (hp : pad.length = 65250) :
    ¬ ∀ b m, dec6 b = .ok m → NamesOKM m → dec6 (encMsg m) = .ok m := by
  intro hfull
  have h1 := hfull _ _ (dec6_b6big snShort pad rfl hp) (namesOK_m6big_short pad)
  have h2 := PMsg_msg_length ((dec6_iff _ _).mp h1)
  rw [encMsg_m6big_length snShort pad hp] at h2
  simp only [List.length_cons, List.length_nil] at h2
  omega

/-- the names hypothesis alone is not enough: re-encoding this accepted message
(all names short) writes a 65562-byte IA_TA value behind a 16-bit length, and
the result is not read back as the message -/
theorem v6_names_only_false : ¬ ∀ b m, dec6 b = .ok m → NamesOKM m → dec6 (encMsg m) = .ok m :=
  names_only_false_of (zeros 65250) (zeros_length 65250)

theorem not_fitsLen_m6big (sn pad : Bytes) (hp : pad.length = 65250) : ¬ FitsLenM (m6big sn pad) := by
  intro h
  simp only [m6big, FitsLenM, FitsLenL] at h
  have h1 := h.1 (by simp [hasV4, hasV4L])
  simp only [encOpt, encOpts, Opt6.code, List.length_append, tlv_length, copyInto_length,
    enc4_p4w_length, hp, List.length_nil] at h1
  omega

end Dhcp.V6
