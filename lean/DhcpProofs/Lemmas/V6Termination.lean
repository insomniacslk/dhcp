import DhcpProofs.Lemmas.V6Parse
/-
  Fuel sufficiency of the DHCPv6 decoder model (C03, termination): the
  out-of-fuel branches of `parseOpt` / `decOptsF` / `decMsgF` and of the flat
  loops (which the Go code does not have) are unreachable with the fuel the
  entry points pass.  For the nested decoders it is a corollary of exactness:
  at every fuel `f` they accept exactly the derivations nested no deeper than `f`
  (`decF_iff`), a nesting level costs at least the four bytes of a code/length
  header (`fuel_bound`), and they never panic; so with `fuelFor b` or more the
  result is the same.  For the flat loops: every iteration takes bytes off the
  buffer (`LexLen`: by how many bytes `consume`, `read16` and a four-byte option
  header shorten it; `C09_v6_loop_progress` uses them too).
-/
namespace Dhcp.V6

namespace LexLen
theorem consume_some (l : Lexer) (n : Nat) (od : Bytes) (h : (l.consume n).1 = some od) :
    od.length + (l.consume n).2.data.length = l.data.length := by
  rcases Nat.lt_or_ge l.data.length n with hn | hn
  · rw [Lexer.consume_of_lt hn] at h; cases h
  · rw [Lexer.consume_of_le hn] at h ⊢
    cases h
    simp only [List.length_take, List.length_drop]; omega

theorem read16_le (l : Lexer) : (l.read16).2.data.length ≤ l.data.length :=
  Lexer.read16_snd l ▸ Lexer.consume_le l 2

theorem copyN_le (l : Lexer) (n : Nat) : (l.copyN n).2.data.length ≤ l.data.length := Lexer.consume_le l n

theorem readAll_fst (l : Lexer) : (l.readAll).1 = l.data := rfl

theorem read16_has (l : Lexer) (h : l.has 2 = true) : (l.read16).2.data.length + 2 = l.data.length := by
  have := congrArg List.length (Lexer.read16_of_le (of_decide_eq_true h)).2.1
  simp only [List.length_append, be16_length] at this; omega

theorem header_len (l : Lexer) (h : l.has 4 = true) :
    ((l.read16).2.read16).2.data.length + 4 = l.data.length := by
  have h4 : 4 ≤ l.data.length := of_decide_eq_true h
  have h1 := read16_has l (decide_eq_true (by omega))
  have h2 := read16_has l.read16.2 (decide_eq_true (by omega))
  omega

end LexLen

theorem tlvLoop_fuel {α : Type} (p : Nat → Bytes → Res α) : ∀ (f1 f2 : Nat) (l : Lexer) (acc : List α),
    l.data.length < f1 → l.data.length < f2 → tlvLoop p f1 l acc = tlvLoop p f2 l acc :=
  Lexer.loop_fuel (tlvLoop p) fun f g l acc ih => by
    unfold tlvLoop
    by_cases hh : l.has 4 = true
    · simp only [hh, if_true]
      have hlen := LexLen.header_len l hh
      have hrest := Lexer.consume_le ((l.read16).2.read16).2 ((l.read16).2.read16).1
      split
      · exact ih _ _ (by omega)
      · rfl
      · rfl
    · simp [hh]

theorem u16Loop_fuel : ∀ (f1 f2 : Nat) (l : Lexer) (acc : List Nat),
    l.data.length < f1 → l.data.length < f2 → u16Loop f1 l acc = u16Loop f2 l acc :=
  Lexer.loop_fuel u16Loop fun f g l acc ih => by
    unfold u16Loop
    by_cases hh : l.has 2 = true
    · simp only [hh, if_true]
      have hlen := LexLen.read16_has l hh
      exact ih _ _ (by omega)
    · simp [hh]

theorem lenPrefLoop_fuel : ∀ (f1 f2 : Nat) (l : Lexer) (acc : List Bytes),
    l.data.length < f1 → l.data.length < f2 → lenPrefLoop f1 l acc = lenPrefLoop f2 l acc :=
  Lexer.loop_fuel lenPrefLoop fun f g l acc ih => by
    unfold lenPrefLoop
    by_cases hh : l.has 2 = true
    · simp only [hh, if_true]
      have hlen := LexLen.read16_has l hh
      have hrest := LexLen.copyN_le (l.read16).2 (l.read16).1
      exact ih _ _ (by omega)
    · simp [hh]

theorem ip16Loop_fuel : ∀ (f1 f2 : Nat) (l : Lexer) (acc : List IP),
    l.data.length < f1 → l.data.length < f2 → ip16Loop f1 l acc = ip16Loop f2 l acc :=
  Lexer.loop_fuel ip16Loop fun f g l acc ih => by
    unfold ip16Loop
    by_cases hh : l.has 16 = true
    · simp only [hh, if_true]
      have hlen : (l.copyN 16).2.data.length + 16 = l.data.length := by
        simp only [Lexer.has, decide_eq_true_eq] at hh
        simp [Lexer.copyN, Lexer.consume, hh, List.length_drop]
      exact ih _ _ (by omega)
    · simp [hh]

theorem dec6_fuel (b : Bytes) (k : Nat) : decMsgF (fuelFor b + k) b = dec6 b :=
  Res.eq_of_ok_iff ((dec_ne_panic _).2.2 b) (dec6_ne_panic b) fun m =>
    (decMsgF_iff (Nat.le_add_right _ k)).trans (dec6_iff b m).symm

theorem parseOption_fuel (code : Nat) (b : Bytes) (k : Nat) :
    parseOpt (fuelFor b + k) code b = parseOption code b :=
  Res.eq_of_ok_iff ((dec_ne_panic _).1 code b) (parseOption_ne_panic code b) fun o =>
    (parseOpt_iff (Nat.le_add_right _ k)).trans (parseOption_iff code b o).symm

theorem decOpts_fuel (b : Bytes) (k : Nat) : decOptsF (fuelFor b + k) b = decOpts b :=
  Res.eq_of_ok_iff ((dec_ne_panic _).2.1 b) (decOpts_ne_panic b) fun os =>
    (decOptsF_iff (Nat.le_add_right _ k)).trans (decOpts_iff b os).symm

end Dhcp.V6
