import DhcpProofs.Lemmas.C03Relay
import DhcpProofs.Lemmas.C03Strings
import DhcpProofs.Lemmas.V6BuildMsg
import Dhcp.V6.Observe
import DhcpProofs.Lemmas.V4Fix
/-
  C03 over the netboot and ztpv6 observers of a decoded DHCPv6 message
  (model: Dhcp/V6/Observe.lean): no guard fires on decoded messages.
-/
namespace Dhcp.V6
open Dhcp.Str

theorem addrConfs_ne_panic : ∀ xs : List Opt6, (∀ o ∈ xs, ∃ ip p v sub, o = .iaaddr ip p v sub) →
    addrConfs xs ≠ .panic
  | [], _ => nofun
  | x :: xs, h => by
    obtain ⟨ip, p, v, sub, rfl⟩ := h x (List.mem_cons_self ..)
    exact Res.map_ne_panic (addrConfs_ne_panic xs fun o ho => h o (List.mem_cons_of_mem _ ho))

theorem getNetConfFromPacketv6_ne_panic {os : List Opt6} (h : DecOpts os) : getNetConfFromPacketv6 os ≠ .panic := by
  unfold getNetConfFromPacketv6
  rw [oneIANAOf_typed h.ianaTyped]
  cases hg : getOne ocIANA os with
  | none => nofun
  | some o =>
    obtain ⟨i, t1, t2, sub, rfl, hsub⟩ := (h.mem (getOne_mem hg)).iana_of_code (getOne_code hg)
    exact Res.map_ne_panic <| addrConfs_ne_panic _ fun o ho =>
      (hsub.mem (mem_get.mp ho).1).iaaddr_of_code (mem_get.mp ho).2

theorem DecMsg.relay_typ {t hc : UInt8} {l p : IP} {os : List Opt6} (h : DecMsg (.relay t hc l p os)) :
    t ≠ mtAdvertise ∧ t ≠ mtReply :=
  ⟨fun e => absurd (e ▸ h.1) (by decide), fun e => absurd (e ▸ h.1) (by decide)⟩

/-- the scan over a conversation of decoded messages: the assertions hold and the REPLY kept is
decoded (the ADVERTISE is only read through checked accessors) -/
theorem scanConversation_dec : ∀ (ms : List Msg6) (adv rep : Option (List Opt6)),
    (∀ m ∈ ms, DecMsg m) → (∀ os, rep = some os → DecOpts os) →
    ∃ adv' rep', scanConversation ms adv rep = .ok (adv', rep') ∧ ∀ os, rep' = some os → DecOpts os
  | [], adv, rep, _, hr => ⟨adv, rep, rfl, hr⟩
  | .msg t x os :: ms, adv, rep, hm, hr => by
    obtain ⟨hd, hrest⟩ := List.forall_mem_cons.mp hm
    by_cases h1 : t = mtAdvertise
    · simp only [scanConversation, Msg6.typ, h1, if_true]
      exact scanConversation_dec ms _ _ hrest hr
    · by_cases h2 : t = mtReply
      · simp only [scanConversation, Msg6.typ, h2, if_true]
        exact scanConversation_dec ms _ _ hrest fun _ h => Option.some.inj h ▸ hd.2
      · simp only [scanConversation, Msg6.typ, h1, h2, if_false]
        exact scanConversation_dec ms _ _ hrest hr
  | .relay t hc l p os :: ms, adv, rep, hm, hr => by
    obtain ⟨hd, hrest⟩ := List.forall_mem_cons.mp hm
    simp only [scanConversation, Msg6.typ, hd.relay_typ.1, hd.relay_typ.2, if_false]
    exact scanConversation_dec ms _ _ hrest hr

theorem conversationToNetconf_ne_panic {ms : List Msg6} (h : ∀ m ∈ ms, DecMsg m) :
    conversationToNetconf ms ≠ .panic := by
  unfold conversationToNetconf
  obtain ⟨adv, rep, hs, hrep⟩ := scanConversation_dec ms none none h nofun
  rw [hs]
  cases rep with
  | none => nofun
  | some ros =>
    rcases Res.of_ne_panic (getNetConfFromPacketv6_ne_panic (hrep ros rfl)) with e | ⟨nc, e⟩ <;> simp only [e]
    · nofun
    · exact ite_ne (fun _ => nofun) (fun _ => nofun)

theorem mellanoxVendorData_ne_panic (subs : List (Nat × Bytes)) : mellanoxVendorData subs ≠ .panic := by
  unfold mellanoxVendorData
  simp only []
  split <;> nofun

theorem cienaSerial_ne_panic {m : Msg6} (h : DecMsg m) : cienaSerial m ≠ .panic := by
  unfold cienaSerial
  rcases Res.of_ne_panic (getInnerMessage_ne_panic m) with e | ⟨inner, e⟩ <;> simp only [e]
  · nofun
  · have := (getInnerMessage_dec h e).1.opts.clientIDOf
    split
    · contradiction
    all_goals nofun

/-- every index lies below the piece count tested just before (`len(p) < k` returns an error) -/
theorem ztp6Case_ne_panic {m : Msg6} (h : DecMsg m) (d : Bytes) : ztp6Case m d ≠ some .panic := by
  unfold ztp6Case
  refine ite_ne (fun _ => ?_) fun _ => ite_ne (fun _ => ?_) fun _ => ite_ne (fun _ => ?_) fun _ =>
    ite_ne (fun _ => ?_) fun _ => nofun
  · exact mt Option.some.inj <| ite_ne (fun _ => nofun) fun _ => pick3_ne_panic _ (by omega) (by omega) (by omega)
  · exact mt Option.some.inj <| ite_ne (fun _ => nofun) fun _ => pick3_ne_panic _ (by omega) (by omega) (by omega)
  · exact mt Option.some.inj <| ite_ne (fun _ => nofun) fun _ => pick3_ne_panic _ (by omega) (by omega) (by omega)
  · refine mt Option.some.inj <| ite_ne (fun _ => nofun) fun _ => ?_
    rw [idx_bind (by omega), idx_bind (by omega)]
    exact Res.bind_ne_panic (cienaSerial_ne_panic h) fun _ _ => nofun

theorem ztp6Scan_ne_panic {m : Msg6} (h : DecMsg m) : ∀ ds : List Bytes, ztp6Scan m ds ≠ .panic
  | [] => nofun
  | d :: ds => by
    simp only [ztp6Scan]
    cases hc : ztp6Case m d with
    | none => exact ztp6Scan_ne_panic h ds
    | some r => exact fun e => ztp6Case_ne_panic h d (e ▸ hc)

theorem ztp6ParseVendorData_ne_panic {m : Msg6} (h : DecMsg m) : ztp6ParseVendorData m ≠ .panic := by
  unfold ztp6ParseVendorData
  cases h17 : getOne ocVendorOpts m.opts with
  | some o17 =>
    obtain ⟨en, subs, rfl⟩ := (h.opts.mem (getOne_mem h17)).vendorOpts_of_code (getOne_code h17)
    cases getOne ocVendorClass m.opts <;> simp only [] <;> split <;>
      first | exact mellanoxVendorData_ne_panic _ | exact ztp6Scan_ne_panic h _
  | none =>
    cases h16 : getOne ocVendorClass m.opts with
    | none => nofun
    | some o16 =>
      obtain ⟨en, data, rfl⟩ := (h.opts.mem (getOne_mem h16)).vendorClass_of_code (getOne_code h16)
      exact ztp6Scan_ne_panic h _

mutual
theorem optEncPanics_dec : (o : Opt6) → DecOpt o → optEncPanics o = false
  | .dhcpv4Msg p, ⟨v, hv⟩ => by
    obtain ⟨b₁, hb, _, _⟩ := V4.dec4_fixpoint v p hv
    simp [optEncPanics, hb, Res.isPanic]
  | .relayMsg m, h => msgEncPanics_dec m h
  | .iana _ _ _ os, h => optsEncPanics_dec os h
  | .iata _ os, h => optsEncPanics_dec os h
  | .iaaddr _ _ _ os, h => optsEncPanics_dec os h
  | .iapd _ _ _ os, h => optsEncPanics_dec os h
  | .iaprefix _ _ _ os, h => optsEncPanics_dec os h
  | .fourRD os, h => optsEncPanics_dec os h
  | .clientID _, _ | .serverID _, _ | .oro _, _ | .elapsed _, _ | .status .., _ | .userClass _, _
  | .vendorClass .., _ | .vendorOpts .., _ | .interfaceID _, _ | .dns _, _ | .domainSearch _, _
  | .infoRefresh _, _ | .remoteID .., _ | .fqdn .., _ | .ntp _, _ | .bootfileURL _, _
  | .bootfileParam _, _ | .archType _, _ | .nii .., _ | .clientLLA .., _ | .dhcp4o6Server _, _
  | .fourRDMapRule .., _ | .fourRDNonMapRule .., _ | .relayPort _, _ | .generic .., _ => rfl
theorem optsEncPanics_dec : (os : List Opt6) → DecOpts os → optsEncPanics os = false
  | [], _ => rfl
  | o :: os, h => by
    simp only [optsEncPanics, optEncPanics_dec o h.1, optsEncPanics_dec os h.2, Bool.or_self]
theorem msgEncPanics_dec : (m : Msg6) → DecMsg m → msgEncPanics m = false
  | .msg _ _ os, h => optsEncPanics_dec os h.2
  | .relay _ _ _ _ os, h => optsEncPanics_dec os h.2.2.2
end

theorem encMsgR_dec {m : Msg6} (h : DecMsg m) : encMsgR m = .ok (encMsg m) := by
  simp [encMsgR, msgEncPanics_dec m h]

theorem parseRemoteID_ne_panic (mc : Bytes → Option CircuitID) (m : Msg6) : parseRemoteID mc m ≠ .panic := by
  unfold parseRemoteID
  rcases Res.of_ne_panic (decapsulateRelayIndex_ne_panic m (-1)) with e | ⟨r, e⟩ <;> simp only [e]
  · nofun
  · cases r with
    | msg t x os => nofun
    | relay t hc l p os =>
      -- both lookups are checked assertions: every leaf below is `ok _` or `err`
      simp only []
      repeat' split
      all_goals nofun

end Dhcp.V6
