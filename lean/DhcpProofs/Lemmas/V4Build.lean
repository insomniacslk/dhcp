import Dhcp.V4.Build
/-
  Helper lemmas for C15: option-map lookups, the frame lemma (a modifier that
  does not write a field leaves it alone), "defaults first, user modifiers
  after", the flag arithmetic of SetBroadcast/SetUnicast, and the closed form
  `*_nil` of each builder without user modifiers (stated with `copyOpt`, the
  `WithOptionCopied` rule on an option map, and `replyOp`).
-/
namespace Dhcp.V4

@[simp] theorem Opts.get_set (o : Opts) (c k : UInt8) (v : Bytes) :
    (o.set c v).get k = if k = c then some v else o.get k := rfl
@[simp] theorem Opts.get_del (o : Opts) (c k : UInt8) :
    (o.del c).get k = if k = c then none else o.get k := rfl
@[simp] theorem Opts.get_empty (k : UInt8) : Opts.empty.get k = none := rfl

theorem Opts.get_set_self (o : Opts) (c : UInt8) (v : Bytes) : (o.set c v).get c = some v := by simp
theorem Opts.get_set_ne (o : Opts) {c k : UInt8} (v : Bytes) (h : k ≠ c) :
    (o.set c v).get k = o.get k := by simp [h]
theorem Opts.get_del_ne (o : Opts) {c k : UInt8} (h : k ≠ c) : (o.del c).get k = o.get k := by simp [h]

@[simp] theorem setOpt_get (p : Pkt4) (c k : UInt8) (v : Bytes) :
    (setOpt p c v).opts.get k = if k = c then some v else p.opts.get k := rfl
@[simp] theorem delOpt_get (p : Pkt4) (c k : UInt8) :
    (delOpt p c).opts.get k = if k = c then none else p.opts.get k := rfl

theorem setOpt_field (p : Pkt4) {c : UInt8} (v : Bytes) {f : Field} (h : f ≠ .opt c) :
    (setOpt p c v).field f = p.field f := by
  cases f with
  | opt k => simp [Pkt4.field, show k ≠ c from fun e => h (e ▸ rfl)]
  | _ => rfl

theorem delOpt_field (p : Pkt4) {c : UInt8} {f : Field} (h : f ≠ .opt c) :
    (delOpt p c).field f = p.field f := by
  cases f with
  | opt k => simp [Pkt4.field, show k ≠ c from fun e => h (e ▸ rfl)]
  | _ => rfl

/-- A check of the table `Modifier.writes` against `apply`, by kind of writer.  Thirteen modifiers are
`setOpt` / `delOpt` under the code `writes` names (`WithOptionCopied` conditionally so) and touch
nothing else; for the others every field is either untouched by computation (`rfl`) or `writes`
says `true`. -/
theorem apply_frame (m : Modifier) (f : Field) (h : m.writes f = false) (p : Pkt4) :
    (apply m p).field f = p.field f := by
  have opt : ∀ c, (∀ k, m.writes (.opt k) = (k == c)) → f ≠ .opt c := fun c hc e => by
    subst e; simp [hc] at h
  cases m with
  | withoutOption => exact delOpt_field p (opt _ fun _ => rfl)
  | withOption | withUserClass | withNetboot | withMessageType | withRequestedOptions | withNetmask
  | withLeaseTime | withIPv6OnlyPreferred | withDomainSearchList | withGeneric | withRouter | withDNS =>
    exact setOpt_field p _ (opt _ fun _ => rfl)
  | withOptionCopied req c =>
    simp only [apply]
    split
    · split
      · exact setOpt_field p _ (opt _ fun _ => rfl)
      · rfl
    · rfl
  | withBroadcast b => cases b <;> cases f <;> first | rfl | cases h
  | _ => cases f <;> first | rfl | cases h

theorem applyAll_nil (p : Pkt4) : applyAll [] p = p := rfl
theorem applyAll_cons (m : Modifier) (ms : List Modifier) (p : Pkt4) :
    applyAll (m :: ms) p = applyAll ms (apply m p) := rfl
theorem applyAll_append (a b : List Modifier) (p : Pkt4) :
    applyAll (a ++ b) p = applyAll b (applyAll a p) := by
  simp [applyAll, List.foldl_append]

theorem applyAll_frame (ms : List Modifier) (f : Field) (h : NoWrite ms f) (p : Pkt4) :
    (applyAll ms p).field f = p.field f := by
  induction ms generalizing p with
  | nil => rfl
  | cons m ms ih =>
    rw [applyAll_cons, ih (fun x hx => h x (List.mem_cons_of_mem m hx)), apply_frame m f (h m (List.mem_cons_self ..))]

theorem build_nil (b : Builder) (xid : Bytes) : build b xid [] = applyAll b.defaults (basePkt xid) := by
  simp [build, newDHCPv4, prependModifiers]

theorem build_eq (b : Builder) (xid : Bytes) (user : List Modifier) :
    build b xid user = applyAll user (build b xid []) := by
  rw [build_nil]; simp [build, newDHCPv4, prependModifiers, applyAll_append]

theorem build_snoc (b : Builder) (xid : Bytes) (user : List Modifier) (m : Modifier) :
    build b xid (user ++ [m]) = apply m (build b xid user) := by
  rw [build_eq b xid (user ++ [m]), build_eq b xid user, applyAll_append]; rfl

theorem build_field (b : Builder) (xid : Bytes) (user : List Modifier) (f : Field) (h : NoWrite user f) :
    (build b xid user).field f = (build b xid []).field f := by
  rw [build_eq]; exact applyAll_frame user f h _

section
variable (b : Builder) (xid : Bytes) (user : List Modifier)
theorem build_op (h : NoWrite user .op) : (build b xid user).op = (build b xid []).op :=
  FieldVal.byte.inj (build_field b xid user .op h)
theorem build_htype (h : NoWrite user .htype) : (build b xid user).htype = (build b xid []).htype :=
  FieldVal.nat.inj (build_field b xid user .htype h)
theorem build_hw (h : NoWrite user .hw) : (build b xid user).hw = (build b xid []).hw :=
  FieldVal.bytes.inj (build_field b xid user .hw h)
theorem build_hops (h : NoWrite user .hops) : (build b xid user).hops = (build b xid []).hops :=
  FieldVal.byte.inj (build_field b xid user .hops h)
theorem build_xid (h : NoWrite user .xid) : (build b xid user).xid = (build b xid []).xid :=
  FieldVal.bytes.inj (build_field b xid user .xid h)
theorem build_flags (h : NoWrite user .flags) : (build b xid user).flags = (build b xid []).flags :=
  FieldVal.nat.inj (build_field b xid user .flags h)
theorem build_ciaddr (h : NoWrite user .ciaddr) : (build b xid user).ciaddr = (build b xid []).ciaddr :=
  FieldVal.ip.inj (build_field b xid user .ciaddr h)
theorem build_yiaddr (h : NoWrite user .yiaddr) : (build b xid user).yiaddr = (build b xid []).yiaddr :=
  FieldVal.ip.inj (build_field b xid user .yiaddr h)
theorem build_siaddr (h : NoWrite user .siaddr) : (build b xid user).siaddr = (build b xid []).siaddr :=
  FieldVal.ip.inj (build_field b xid user .siaddr h)
theorem build_giaddr (h : NoWrite user .giaddr) : (build b xid user).giaddr = (build b xid []).giaddr :=
  FieldVal.ip.inj (build_field b xid user .giaddr h)
theorem build_opt (c : UInt8) (h : NoWrite user (.opt c)) :
    (build b xid user).opts.get c = (build b xid []).opts.get c :=
  FieldVal.optv.inj (build_field b xid user (.opt c) h)
end

theorem land_unicast_broadcast (x : Nat) : (x &&& unicastMask) &&& broadcastMask = 0 := by
  rw [Nat.and_assoc]
  have : unicastMask &&& broadcastMask = 0 := by decide
  rw [this]; exact Nat.and_zero x

theorem isBroadcast_setUnicast (p : Pkt4) : isBroadcast (setUnicast p) = false := by
  have h := land_unicast_broadcast p.flags
  simp only [isBroadcast, setUnicast, h]; decide

theorem isBroadcast_setBroadcast (p : Pkt4) : isBroadcast (setBroadcast p) = true := by
  have h : (p.flags ||| broadcastMask) &&& broadcastMask = broadcastMask := by
    apply Nat.eq_of_testBit_eq; intro i
    simp only [Nat.testBit_and, Nat.testBit_or]
    cases Nat.testBit broadcastMask i <;> simp
  simp [isBroadcast, setBroadcast, h]

theorem setUnicast_flags (p : Pkt4) : (setUnicast p).flags = p.flags % 32768 := by
  have : unicastMask = 2 ^ 15 - 1 := by decide
  simp only [setUnicast, this, Nat.and_two_pow_sub_one_eq_mod]

theorem addCodes_nil_std :
    List.map (fun x => x.code) (addCodes (List.map OptCode.named []) stdRequested) = [1, 3, 15, 6] := by decide

/-- the copy rule of `WithOptionCopied`: the source value when it is non-empty -/
def copiedValue (src : Pkt4) (c : UInt8) : Option Bytes :=
  match src.opts.get c with
  | some v => if v.length > 0 then some v else none
  | none => none

/-- `WithOptionCopied` on an option map -/
def copyOpt (src : Pkt4) (c : UInt8) (o : Opts) : Opts :=
  match copiedValue src c with
  | some v => o.set c v
  | none => o

theorem apply_copied (src p : Pkt4) (c : UInt8) :
    apply (.withOptionCopied src c) p = { p with opts := copyOpt src c p.opts } := by
  simp only [apply, copyOpt, copiedValue]
  cases hs : src.opts.get c with
  | none => rfl
  | some v => by_cases hv : v.length > 0 <;> simp [hv, setOpt]

@[simp] theorem copyOpt_get (src : Pkt4) (c k : UInt8) (o : Opts) :
    (copyOpt src c o).get k = if k = c then (copiedValue src c).or (o.get c) else o.get k := by
  unfold copyOpt
  cases copiedValue src c <;> by_cases h : k = c <;> simp [h]

theorem apply_copied_get_self (src p : Pkt4) (c : UInt8) (h : p.opts.get c = none) :
    (apply (.withOptionCopied src c) p).opts.get c = copiedValue src c := by
  simp [apply_copied, h]

theorem apply_copied_get_ne (src p : Pkt4) {c k : UInt8} (h : k ≠ c) :
    (apply (.withOptionCopied src c) p).opts.get k = p.opts.get k := by
  simp [apply_copied, h]

/-- the opcode `WithReply` sets -/
def replyOp (op : UInt8) : UInt8 := if op = opBootRequest then opBootReply else opBootRequest

theorem new_nil (xid : Bytes) : build .new xid [] = basePkt xid := rfl

theorem discovery_nil (xid hw : Bytes) :
    build (.discovery hw) xid [] =
      { basePkt xid with
          hw := hw,
          opts := (Opts.empty.set optParamList [1, 3, 15, 6]).set optMessageType [mtDiscover] } := by
  simp only [build_nil, Builder.defaults, applyAll_cons, applyAll_nil, apply, requestOptions, setOpt,
    paramRequestList, basePkt, Opts.get_empty, Option.getD_none, addCodes_nil_std]

theorem inform_nil (xid hw : Bytes) (ip : IP) :
    build (.inform hw ip) xid [] =
      { basePkt xid with
          hw := hw, ciaddr := ip, opts := Opts.empty.set optMessageType [mtInform] } := by
  simp only [build_nil, Builder.defaults, applyAll_cons, applyAll_nil, apply, setOpt, basePkt]

theorem replyFromRequest_nil (xid : Bytes) (req : Pkt4) :
    build (.replyFromRequest req) xid [] =
      { basePkt xid with
          op := replyOp req.op, htype := req.htype, xid := req.xid, hw := req.hw,
          flags := req.flags, giaddr := req.giaddr,
          opts := copyOpt req optClientID (copyOpt req optAgentInfo Opts.empty) } := by
  simp only [build_nil, Builder.defaults, applyAll_cons, applyAll_nil, apply_copied]
  simp only [apply, basePkt, replyOp]

theorem releaseFromAck_nil (xid : Bytes) (ack : Pkt4) :
    build (.releaseFromAck ack) xid [] =
      { basePkt xid with
          hw := ack.hw, ciaddr := ack.yiaddr, flags := 0 &&& unicastMask,
          opts := copyOpt ack optServerID (Opts.empty.set optMessageType [mtRelease]) } := by
  simp only [build_nil, Builder.defaults, applyAll_cons, applyAll_nil, apply_copied]
  simp only [apply, basePkt, setOpt,
    setUnicast, Bool.false_eq_true, if_false]

theorem renewFromAck_nil (xid : Bytes) (ack : Pkt4) :
    build (.renewFromAck ack) xid [] =
      { basePkt xid with
          op := replyOp ack.op, htype := ack.htype, xid := ack.xid, hw := ack.hw,
          flags := ack.flags &&& unicastMask, ciaddr := ack.yiaddr,
          opts := (Opts.empty.set optMessageType [mtRequest]).set optParamList [1, 3, 15, 6] } := by
  have h55 : (Opts.empty.set optMessageType [mtRequest]).get optParamList = none := by decide
  simp only [build_nil, Builder.defaults, applyAll_cons, applyAll_nil, apply, basePkt, setOpt,
    setUnicast, Bool.false_eq_true, if_false, requestOptions, paramRequestList, h55, Option.getD_none,
    addCodes_nil_std, replyOp]

theorem requestFromOffer_nil (xid : Bytes) (offer : Pkt4) :
    build (.requestFromOffer offer) xid [] =
      { basePkt xid with
          op := replyOp offer.op, htype := offer.htype, xid := offer.xid, hw := offer.hw,
          flags := offer.flags, ciaddr := offer.ciaddr,
          opts := (copyOpt offer optServerID
                    ((Opts.empty.set optMessageType [mtRequest]).set optRequestedIP (ipTo4Bytes offer.yiaddr))).set
                      optParamList [1, 3, 15, 6] } := by
  have h55 : (copyOpt offer optServerID
      ((Opts.empty.set optMessageType [mtRequest]).set optRequestedIP (ipTo4Bytes offer.yiaddr))).get optParamList = none := by
    simp [optParamList, optServerID, optRequestedIP, optMessageType]
  simp only [build_nil, Builder.defaults, applyAll_cons, applyAll_nil, apply_copied]
  simp only [apply, basePkt, setOpt,
    requestOptions, paramRequestList, h55, Option.getD_none, addCodes_nil_std, replyOp, OptVal.code, OptVal.bytes]

end Dhcp.V4
