import Dhcp.Cost
import DhcpProofs.Lemmas.V4Parse
import DhcpProofs.Lemmas.V4Marshal
/-
  C09, DHCPv4 part: the retained size of a decoded packet is linear in the
  input.  RFC 3396 concatenation (`valueOf`) never duplicates a byte: every
  instance `(c, v)` of the options area contributes `|v|` bytes to exactly one
  map entry and creates at most one entry.
-/
namespace Dhcp.Cost
open Dhcp.V4 Dhcp.Spec

theorem sum_map_le_of_forall {α : Type} (L : List α) (f g : α → Nat)
    (h : ∀ k, k ∈ L → f k ≤ g k) : (L.map f).sum ≤ (L.map g).sum := by
  induction L with
  | nil => simp
  | cons x xs ih =>
    have hx := h x (List.mem_cons_self ..)
    have hxs := ih (fun k hk => h k (List.mem_cons_of_mem _ hk))
    simp only [List.map_cons, List.sum_cons]
    omega

theorem sum_map_update_le {α : Type} (L : List α) (hL : L.Nodup) (f g : α → Nat) (c : α) (d : Nat)
    (hne : ∀ k, k ≠ c → f k ≤ g k) (hc : f c ≤ g c + d) :
    (L.map f).sum ≤ (L.map g).sum + d := by
  induction L with
  | nil => simp
  | cons x xs ih =>
    rw [List.nodup_cons] at hL
    simp only [List.map_cons, List.sum_cons]
    by_cases hx : x = c
    · subst hx
      have hxs : (xs.map f).sum ≤ (xs.map g).sum :=
        sum_map_le_of_forall xs f g (fun k hk => hne k (fun e => hL.1 (e ▸ hk)))
      omega
    · have h1 := hne x hx
      have h2 := ih hL.2
      omega

theorem mem_le_sum_map {α : Type} (L : List α) (f : α → Nat) (k : α) (hk : k ∈ L) :
    f k ≤ (L.map f).sum := by
  induction L with
  | nil => cases hk
  | cons x xs ih =>
    simp only [List.map_cons, List.sum_cons]
    rcases List.mem_cons.mp hk with e | e
    · subst e; omega
    · have := ih e; omega

theorem runEnd_len {a : Bytes} {is : List (UInt8 × Bytes)} (h : RunEnd a is) :
    (is.map (fun i => 2 + i.2.length)).sum + 1 ≤ a.length := by
  induction h with
  | fin tail => simp
  | pad _ ih => simp only [List.length_cons]; omega
  | opt c len v _ _ _ _ ih =>
    simp only [List.map_cons, List.sum_cons, List.length_cons, List.length_append]
    omega

theorem area_len {a : Bytes} {is : List (UInt8 × Bytes)} (h : Area a is) :
    (is.map (fun i => 2 + i.2.length)).sum ≤ a.length := by
  rcases h with ⟨_, h2⟩ | h
  · subst h2; simp
  · have := runEnd_len h; omega

theorem valueOf_nil (k : UInt8) : valueOf [] k = none := by
  simp [valueOf]

theorem valueOf_cons (c : UInt8) (v : Bytes) (is : List (UInt8 × Bytes)) (k : UInt8) :
    valueOf ((c, v) :: is) k
      = if c = k then some (v ++ (valueOf is k).getD []) else valueOf is k := by
  unfold valueOf
  by_cases hck : c = k
  · subst hck
    cases hf : is.filter (fun i => decide (i.1 = c)) with
    | nil => simp [hf]
    | cons x xs => simp [hf]
  · have e : ((c, v) :: is).filter (fun i => decide (i.1 = k))
        = is.filter (fun i => decide (i.1 = k)) :=
      List.filter_cons_of_neg (by simpa using hck)
    rw [e, if_neg hck]

theorem szEntry_some (v : Bytes) : szEntry (some v) = nodeC + v.length := rfl

/-- `c` for an entry plus the bytes of its value, nothing for no entry: `szEntry` is `entryCost nodeC`, the
length of the value `entryCost 0`, so one sum lemma serves both -/
def entryCost (c : Nat) : Option Bytes → Nat
  | some v => c + v.length
  | none => 0

theorem szEntry_eq (o : Option Bytes) : szEntry o = entryCost nodeC o := by cases o <;> rfl

theorem length_getD_eq (o : Option Bytes) : (o.getD []).length = entryCost 0 o := by
  cases o <;> simp [entryCost]

theorem sum_entryCost_valueOf_le (c : Nat) (is : List (UInt8 × Bytes)) :
    ∀ (L : List UInt8), L.Nodup →
      (L.map (fun k => entryCost c (valueOf is k))).sum ≤ (is.map (fun i => c + i.2.length)).sum := by
  induction is with
  | nil => intro L _; simp [valueOf_nil, entryCost, List.map_const', List.sum_replicate_nat]
  | cons i is ih =>
    intro L hL
    obtain ⟨k0, v⟩ := i
    have h1 := sum_map_update_le L hL
      (fun k => entryCost c (valueOf ((k0, v) :: is) k)) (fun k => entryCost c (valueOf is k)) k0
      (c + v.length)
      (by
        intro k hk
        have : ¬ k0 = k := fun e => hk e.symm
        simp only [valueOf_cons, this, if_false]; exact Nat.le_refl _)
      (by
        simp only [valueOf_cons, if_true]
        cases valueOf is k0 <;> simp [entryCost] <;> omega)
    have h2 := ih L hL
    simp only [List.map_cons, List.sum_cons]
    omega

theorem sum_szEntry_le_nodes (f : UInt8 → Option Bytes) (L : List UInt8) :
    (L.map (fun k => szEntry (f k))).sum
      ≤ nodeC * L.length + (L.map (fun k => ((f k).getD []).length)).sum := by
  induction L with
  | nil => simp
  | cons x xs ih =>
    have hx : szEntry (f x) ≤ nodeC + ((f x).getD []).length := by
      cases f x <;> simp [szEntry]
    simp only [List.map_cons, List.sum_cons, List.length_cons, Nat.mul_succ]
    omega

theorem sum_add_two (is : List (UInt8 × Bytes)) :
    (is.map (fun i => i.2.length)).sum ≤ (is.map (fun i => 2 + i.2.length)).sum :=
  sum_map_le_of_forall is _ _ (fun _ _ => by omega)

theorem sum_node_le_16 (is : List (UInt8 × Bytes)) :
    (is.map (fun i => nodeC + i.2.length)).sum ≤ 16 * (is.map (fun i => 2 + i.2.length)).sum := by
  induction is with
  | nil => simp
  | cons x xs ih =>
    simp only [List.map_cons, List.sum_cons, nodeC] at ih ⊢
    omega

theorem allCodes_length : Opts.allCodes.length = 256 := by simp [Opts.allCodes]

theorem slice_length_le (b : Bytes) (i j : Nat) : (slice b i j).length ≤ j - i := by
  unfold slice; exact List.length_take_le _ _

theorem opts_area (b : Bytes) (p : Pkt4) (h : dec4 b = .ok p) :
    240 ≤ b.length ∧ ∃ is, (∀ c, p.opts.f c = valueOf is c)
      ∧ (is.map (fun i => 2 + i.2.length)).sum + 240 ≤ b.length := by
  have hp := dec4_sound b p h
  obtain ⟨is, ha, hf⟩ := hp.opts
  have hl := area_len ha
  have h240 := hp.len
  rw [List.length_drop] at hl
  exact ⟨h240, is, hf, by omega⟩

theorem v4_values_total (b : Bytes) (p : Pkt4) (h : dec4 b = .ok p) :
    (Opts.allCodes.map (fun k => ((p.opts.f k).getD []).length)).sum + 240 ≤ b.length := by
  obtain ⟨_, is, hf, hl⟩ := opts_area b p h
  have h1 := sum_entryCost_valueOf_le 0 is Opts.allCodes allCodes_nodup
  have h2 := sum_add_two is
  simp only [hf, length_getD_eq, Nat.zero_add] at h1 ⊢; omega

theorem v4_concat_linear (b : Bytes) (p : Pkt4) (h : dec4 b = .ok p) (c : UInt8) (v : Bytes)
    (hv : p.opts.f c = some v) : v.length + 240 ≤ b.length := by
  have ht := v4_values_total b p h
  have hm := mem_le_sum_map Opts.allCodes (fun k => ((p.opts.f k).getD []).length) c (mem_allCodes c)
  simp only [hv, Option.getD_some] at hm
  omega

theorem fixed4_le (b : Bytes) (p : Pkt4) (h : dec4 b = .ok p) :
    nodeC + p.hw.length + p.xid.length + szIP p.ciaddr + szIP p.yiaddr + szIP p.siaddr
      + szIP p.giaddr + p.sname.length + p.file.length ≤ 260 := by
  have hp := dec4_sound b p h
  have hhw : p.hw.length ≤ 16 := by
    rw [hp.hw, List.length_take]; omega
  have hxid : p.xid.length ≤ 4 := by
    rw [hp.xid]; exact slice_length_le b 4 8
  have hci : szIP p.ciaddr ≤ 4 := by
    rw [hp.ci]; exact slice_length_le b 12 16
  have hyi : szIP p.yiaddr ≤ 4 := by
    rw [hp.yi]; exact slice_length_le b 16 20
  have hsi : szIP p.siaddr ≤ 4 := by
    rw [hp.si]; exact slice_length_le b 20 24
  have hgi : szIP p.giaddr ≤ 4 := by
    rw [hp.gi]; exact slice_length_le b 24 28
  have hsn : p.sname.length ≤ 64 := by
    rw [hp.sname]
    exact Nat.le_trans (List.takeWhile_sublist _).length_le (slice_length_le b 44 108)
  have hfl : p.file.length ≤ 128 := by
    rw [hp.file]
    exact Nat.le_trans (List.takeWhile_sublist _).length_le (slice_length_le b 108 236)
  unfold nodeC
  omega

/-- retained size, coarse: every instance costs 2 octets of input and at most one map entry -/
theorem size4_le (b : Bytes) (p : Pkt4) (h : dec4 b = .ok p) : size4 p ≤ 16 * b.length := by
  obtain ⟨_, is, hf, hl⟩ := opts_area b p h
  have hfix := fixed4_le b p h
  have h1 := sum_entryCost_valueOf_le nodeC is Opts.allCodes allCodes_nodup
  have h2 := sum_node_le_16 is
  simp only [size4, sizeOpts4, hf, szEntry_eq]
  omega

/-- retained size, fine: the input once, at most 256 map entries, the fixed header fields -/
theorem size4_le_tight (b : Bytes) (p : Pkt4) (h : dec4 b = .ok p) :
    size4 p ≤ b.length + 256 * 32 + 64 := by
  have hfix := fixed4_le b p h
  have ht := v4_values_total b p h
  have h1 := sum_szEntry_le_nodes p.opts.f Opts.allCodes
  rw [allCodes_length] at h1
  unfold size4 sizeOpts4
  unfold nodeC at h1
  omega

/-- the measure is not constantly zero: one 1-octet option costs a node + 1 -/
example : szEntry ((Opts.empty.app 53 [1]).f 53) = 33 := by decide

/-- the hypotheses of the lemmas above are satisfiable: a one-option run -/
example : RunEnd [53, 1, 1, 255] [(53, [1])] :=
  RunEnd.opt 53 1 [1] (by decide) (by decide) (by decide) (RunEnd.fin [])

example : valueOf [(53, [1]), (53, [2])] 53 = some [1, 2] := by decide

end Dhcp.Cost
