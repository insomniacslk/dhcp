import DhcpProofs.Lemmas.V4ValAcc
import DhcpProofs.Lemmas.V4Marshal
/-
  C17 helper lemmas: constructor → accessor.  For each value type an
  `…_enc` lemma says that the spec reads the bytes its `ToBytes` model writes
  as the value that was written, on the constructor's domain; with the
  accessor's `Reads` equation (`Reads.set_get`) that is the set/get theorem.
  Two exceptions go through the model's own round trip instead of a spec lemma: relay agent
  information (`relay_set_get`, by `relayFromBytes_marshal`) and the domain search
  list (`domainSearch_of_encoded`, Lemmas/V4ValLabel.lean).
-/
namespace Dhcp.V4
open Dhcp.Spec

theorem ip_len4 {v : Bytes} (h : v.length = 4) : Val4.ip v = some v := by
  obtain ⟨a, b, c, d, rfl⟩ := len4 h; rfl

theorem mask_len4 {v : Bytes} (h : v.length = 4) : Val4.mask v = some v := ip_len4 h

theorem goBuf_ne_nil {b : Bytes} (h : b ≠ []) : goBuf b = some b := by
  cases b with
  | nil => exact absurd rfl h
  | cons _ _ => rfl

theorem flatMap_ne_nil {α} {f : α → Bytes} {xs : List α} (hne : xs ≠ [])
    (hf : ∀ x ∈ xs, f x ≠ []) : xs.flatMap f ≠ [] := by
  match xs with
  | x :: _ => simp [hf x]

theorem ips_of_ne {v : Bytes} (h : v ≠ []) : Val4.ips v = Val4.addrs v := by
  match v with | _ :: _ => rfl
theorem userClasses_of_ne {v : Bytes} (h : v ≠ []) : Val4.userClasses v = Val4.classes v := by
  match v with | _ :: _ => rfl
theorem archs_of_ne {v : Bytes} (h : v ≠ []) : Val4.archs v = Val4.pairs v := by
  match v with | _ :: _ => rfl
theorem vivc_of_ne {v : Bytes} (h : v ≠ []) : Val4.vivc v = Val4.vendorClasses v := by
  match v with | _ :: _ => rfl
theorem routes_of_ne {v : Bytes} (h : v ≠ []) : Val4.routes v = Val4.routeList v := by
  match v with | _ :: _ => rfl

def v4 (b : Bytes) : Bytes := (to4 b).getD []

theorem to4_eq_v4 {b : Bytes} (h : (to4 b).isSome) : to4 b = some (v4 b) := by
  obtain ⟨v, hv⟩ := Option.isSome_iff_exists.mp h
  rw [v4, hv]; rfl

theorem v4_length {b : Bytes} (h : (to4 b).isSome) : (v4 b).length = 4 := to4_length (to4_eq_v4 h)

theorem addrs_enc (bs : List Bytes) (h : ∀ b ∈ bs, (to4 b).isSome) :
    Val4.addrs (bs.flatMap v4) = some (bs.map v4) := by
  induction bs with
  | nil => rfl
  | cons b bs ih =>
    obtain ⟨x, y, z, w, hb⟩ := len4 (v4_length (h b (by simp)))
    simp [hb, Val4.addrs, ih fun b' hb' => h b' (by simp [hb'])]

theorem ips_enc (bs : List Bytes) (hne : bs ≠ []) (h : ∀ b ∈ bs, (to4 b).isSome) :
    ∃ w, ipsToBytes (bs.map some) = some w ∧ Val4.ips w = some (bs.map v4) := by
  have hflat : (bs.map some).flatMap (fun ip => (ipToBytes ip).getD []) = bs.flatMap v4 := by
    simp only [List.flatMap_map, ipToBytes]; rfl
  have hne' : bs.flatMap v4 ≠ [] := flatMap_ne_nil hne fun b hb e => by
    simpa [e] using v4_length (h b hb)
  exact ⟨bs.flatMap v4, by rw [ipsToBytes, hflat, goBuf_ne_nil hne'],
    (ips_of_ne hne').trans (addrs_enc bs h)⟩

theorem getIP_set_get (c : UInt8) (o : GOpts) (b x : Bytes) (hd : to4 b = some x) :
    getIP c (o.update c (ipToBytes (some b))) = some x := by
  rw [show ipToBytes (some b) = some x from hd]
  exact (getIP_reads c).set_get (ip_len4 (to4_length hd))

theorem getIPs_set_get (c : UInt8) (o : GOpts) (bs : List Bytes) (hne : bs ≠ [])
    (hd : ∀ b ∈ bs, (to4 b).isSome) :
    getIPs c (o.update c (ipsToBytes (bs.map some))) = some (bs.map to4) := by
  obtain ⟨w, hw, hs⟩ := ips_enc bs hne hd
  rw [hw, (getIPs_reads c).set_get hs, List.map_map]
  exact congrArg some (List.map_congr_left fun b hb => (to4_eq_v4 (hd b hb)).symm)

theorem to4_ipv4 (a b c d : UInt8) : to4 (ipv4 a b c d) = some [a, b, c, d] := by
  simp [to4, ipv4, zeros]

theorem getIPs_set_get_ipv4 (c : UInt8) (o : GOpts) (qs : List (UInt8 × UInt8 × UInt8 × UInt8))
    (hne : qs ≠ []) :
    getIPs c (o.update c (ipsToBytes (qs.map (fun q => some (ipv4 q.1 q.2.1 q.2.2.1 q.2.2.2))))) =
      some (qs.map (fun q => some [q.1, q.2.1, q.2.2.1, q.2.2.2])) := by
  have := getIPs_set_get c o (qs.map (fun q => ipv4 q.1 q.2.1 q.2.2.1 q.2.2.2)) (by simpa using hne)
    (by intro b hb; obtain ⟨q, _, rfl⟩ := List.mem_map.mp hb; simp [to4_ipv4])
  simpa [List.map_map, Function.comp_def, to4_ipv4] using this

theorem u32_be32 {s : Nat} (h : s < 4294967296) : Val4.u32 (be32 s) = some s :=
  (show Val4.u32 (be32 s) = some (beNat (be32 s)) by simp [be32, Val4.u32, beNat]).trans
    (congrArg some (beNat_be32 h))

theorem u16_be16 {n : Nat} (h : n < 65536) : Val4.u16 (be16 n) = some n :=
  (show Val4.u16 (be16 n) = some (beNat (be16 n)) by simp [be16, Val4.u16, beNat]).trans
    (congrArg some (beNat_be16 h))

theorem durationToBytes_dom {s : Nat} (h : s < 4294967296) :
    durationToBytes ((s : Int) * second) = some (be32 s) := by
  unfold durationToBytes second
  have h1 : Int.tdiv ((s : Int) * 1000000000) 1000000000 = (s : Int) :=
    Int.mul_tdiv_cancel _ (by decide)
  rw [h1]
  have h2 : ((s : Int) % 4294967296).toNat = s := by omega
  rw [h2]

theorem seconds_enc {s : Nat} (h : s < 4294967296) :
    Val4.seconds (be32 s) = some ((s : Int) * second) := by
  simp [Val4.seconds, u32_be32 h, second]

theorem getDuration_set_get (c : UInt8) (o : GOpts) (s : Nat) (dflt : Int) (hd : s < 4294967296) :
    getDuration c (o.update c (durationToBytes ((s : Int) * second))) dflt = (s : Int) * second := by
  rw [durationToBytes_dom hd]
  exact (getDuration_reads c dflt).set_get (seconds_enc hd)

theorem getString_set_get (c : UInt8) (o : GOpts) (s : Bytes) :
    getString c (o.update c (stringToBytes s)) = s :=
  (getString_reads c).set_get rfl

theorem stripNul_id (s : Bytes) (h : s.getLast? ≠ some 0) : Val4.stripNul s = s := by
  induction s with
  | nil => rfl
  | cons b r ih =>
    cases r with
    | nil =>
      have hb : b ≠ 0 := by simpa using h
      simp [Val4.stripNul, hb]
    | cons x xs =>
      have h' : (x :: xs).getLast? ≠ some 0 := by simpa [List.getLast?_cons_cons] using h
      have := ih h'
      rw [Val4.stripNul, this]

theorem getStringTrim_set_get (c : UInt8) (o : GOpts) (s : Bytes) (hd : s.getLast? ≠ some 0) :
    trimRightNul (getString c (o.update c (stringToBytes s))) = s :=
  (getStringTrim_reads c).set_get (congrArg some (stripNul_id s hd))

theorem classes_enc (xs : List Bytes) (h : ∀ x ∈ xs, 0 < x.length ∧ x.length < 256) :
    Val4.classes (xs.flatMap (fun s => UInt8.ofNat s.length :: s)) = some xs := by
  induction xs with
  | nil => simp [Val4.classes]
  | cons x xs ih =>
    obtain ⟨h0, h256⟩ := h x (by simp)
    have ih' := ih (fun y hy => h y (by simp [hy]))
    have hn : (UInt8.ofNat x.length).toNat = x.length := UInt8.toNat_ofNat_lt h256
    have hne : UInt8.ofNat x.length ≠ 0 := fun hz => by simp [hz] at hn; omega
    simp only [List.flatMap_cons, List.cons_append]
    rw [Val4.classes]
    simp [hn, hne, ih']

theorem pairs_enc (as : List Nat) (h : ∀ a ∈ as, a < 65536) :
    Val4.pairs (as.flatMap be16) = some as := by
  induction as with
  | nil => rfl
  | cons a as ih =>
    have ha := u16_be16 (h a (by simp))
    simp only [be16, Val4.u16, Option.some.injEq] at ha
    simp only [List.flatMap_cons, be16, List.cons_append, List.nil_append, Val4.pairs,
      ih (fun y hy => h y (by simp [hy])), Option.map_some, ha]

theorem vendorClasses_cons (e : Nat) (d rest : Bytes) (he : e < 4294967296) (hd : d.length < 256) :
    Val4.vendorClasses (be32 e ++ UInt8.ofNat d.length :: d ++ rest) =
      (Val4.vendorClasses rest).map (fun t => (e, d) :: t) := by
  have hn : (UInt8.ofNat d.length).toNat = d.length := UInt8.toNat_ofNat_lt hd
  have hu := u32_be32 he
  simp only [be32, Val4.u32, Option.some.injEq] at hu
  simp only [be32, List.cons_append, List.nil_append]
  rw [Val4.vendorClasses]
  simp only [hn, hu, List.length_append, Nat.not_lt.mpr (Nat.le_add_right _ _), if_false,
    List.take_left', List.drop_left']

theorem vendorClasses_enc (ids : List VIVCId)
    (h : ∀ i ∈ ids, i.entID < 4294967296 ∧ i.data.length < 256) :
    Val4.vendorClasses (ids.flatMap (fun i => be32 i.entID ++ UInt8.ofNat i.data.length :: i.data)) =
      some (ids.map (fun i => (i.entID, i.data))) := by
  induction ids with
  | nil => simp [Val4.vendorClasses]
  | cons i ids ih =>
    obtain ⟨he, hd⟩ := h i (by simp)
    rw [List.flatMap_cons, vendorClasses_cons i.entID i.data _ he hd, ih fun y hy => h y (by simp [hy])]
    rfl

/-- the domain of `OptClasslessStaticRoute` for one route: 4-byte destination
and router, prefix length ≤ 32, no destination octet set beyond the
significant ones. -/
structure RouteOK (r : Route) : Prop where
  dest : r.dest.length = 4
  width : r.width ≤ 32
  router : ∃ g, r.router = some g ∧ g.length = 4
  host : r.dest.drop ((r.width + 7) / 8) = List.replicate (4 - (r.width + 7) / 8) 0

def Route.toArg (r : Route) : RouteArg := ⟨some r.dest, r.width, r.router⟩

def routeEnc (r : Route) : Bytes :=
  UInt8.ofNat r.width :: (r.dest.take ((r.width + 7) / 8) ++ r.router.getD [])

/-- the route that reads back from a constructor argument: destination and
router in their 4-byte (`To4()`) form -/
def RouteArg.read (a : RouteArg) : Route :=
  ⟨(a.dest.bind to4).getD [], a.width, a.router.bind to4⟩

/-- the constructor's domain: destination and router have a 4-byte form (they
are 4-byte addresses or 16-byte IPv4-mapped ones, `net.IPv4(a,b,c,d)`), the
mask is `CIDRMask(width ≤ 32, 32)`, no destination octet is set beyond the
significant ones -/
structure RouteArgOK (a : RouteArg) : Prop where
  dest : ∃ db d, a.dest = some db ∧ to4 db = some d
  width : a.width ≤ 32
  router : ∃ gb g, a.router = some gb ∧ to4 gb = some g
  host : a.read.dest.drop ((a.width + 7) / 8) = List.replicate (4 - (a.width + 7) / 8) 0

theorem RouteArgOK.read_ok {a : RouteArg} (h : RouteArgOK a) : RouteOK a.read := by
  obtain ⟨db, d, hd, hd4⟩ := h.dest
  obtain ⟨gb, g, hg, hg4⟩ := h.router
  refine ⟨?_, h.width, ⟨g, ?_, to4_length hg4⟩, h.host⟩
  · simp [RouteArg.read, hd, hd4, to4_length hd4]
  · simp [RouteArg.read, hg, hg4]

theorem routeMarshal_ok {a : RouteArg} (h : RouteArgOK a) : routeMarshal a = .ok (routeEnc a.read) := by
  obtain ⟨db, d, hd, hd4⟩ := h.dest
  obtain ⟨gb, g, hg, hg4⟩ := h.router
  simp [routeMarshal, RouteArg.read, ipToBytes, hd, hd4, hg, hg4, h.width, routeEnc]

theorem routesMarshal_ok (as : List RouteArg) (h : ∀ a ∈ as, RouteArgOK a) :
    routesMarshal as = .ok ((as.map RouteArg.read).flatMap routeEnc) := by
  induction as with
  | nil => rfl
  | cons a as ih =>
    simp only [routesMarshal, routeMarshal_ok (h a (by simp)), ih (fun x hx => h x (by simp [hx])), bind,
      Res.bind, pure, List.map_cons, List.flatMap_cons]

theorem routeList_cons (r : Route) (h : RouteOK r) (rest : Bytes) :
    Val4.routeList (routeEnc r ++ rest) =
      (Val4.routeList rest).map (fun t => ⟨r.dest, r.width, r.router.getD []⟩ :: t) := by
  obtain ⟨g, hg, hgl⟩ := h.router
  have hw : (UInt8.ofNat r.width).toNat = r.width := UInt8.toNat_ofNat_lt (by have := h.width; omega)
  have hp : (r.dest.take ((r.width + 7) / 8)).length = (r.width + 7) / 8 := by
    have := h.width; simp [List.length_take, h.dest]; omega
  rw [routeEnc, hg, Option.getD_some, List.cons_append, Val4.routeList]
  simp only [hw, List.append_assoc]
  rw [if_neg (by have := h.width; simp [hp, hgl]; omega), List.take_left' hp, ← List.drop_drop,
    List.drop_left' hp, List.take_left' hgl, List.drop_left' hgl, ← h.host, List.take_append_drop]

theorem routeList_enc (rs : List Route) (h : ∀ r ∈ rs, RouteOK r) :
    Val4.routeList (rs.flatMap routeEnc) =
      some (rs.map (fun r => (⟨r.dest, r.width, r.router.getD []⟩ : Val4.Route))) := by
  induction rs with
  | nil => simp [Val4.routeList]
  | cons r rs ih =>
    rw [List.flatMap_cons, routeList_cons r (h r (by simp)), ih fun x hx => h x (by simp [hx])]
    rfl

theorem routes_set_get_mapped (o : GOpts) (as : List RouteArg) (hne : as ≠ [])
    (h : ∀ a ∈ as, RouteArgOK a) :
    ∃ raw, routesToBytes as = .ok raw ∧
      Acc.classlessStaticRoute (o.update Code.classlessStaticRoute raw) = some (as.map RouteArg.read) := by
  have hok : ∀ r ∈ as.map RouteArg.read, RouteOK r := fun r hr => by
    obtain ⟨a, ha, rfl⟩ := List.mem_map.mp hr
    exact (h a ha).read_ok
  have hne' : (as.map RouteArg.read).flatMap routeEnc ≠ [] :=
    flatMap_ne_nil (by simpa using hne) (by simp [routeEnc])
  refine ⟨some ((as.map RouteArg.read).flatMap routeEnc), ?_, ?_⟩
  · simp [routesToBytes, routesMarshal_ok as h, Res.map, Res.bind, goBuf_ne_nil hne']
  · rw [Acc.classlessStaticRoute_reads.set_get ((routes_of_ne hne').trans (routeList_enc _ hok)),
      List.map_map]
    refine congrArg some ((List.map_congr_left fun r hr => ?_).trans (List.map_id _))
    obtain ⟨g, hg, _⟩ := (hok r hr).router
    cases r; simp only at hg; subst hg; rfl

theorem routes_set_get (o : GOpts) (rs : List Route) (hne : rs ≠ []) (h : ∀ r ∈ rs, RouteOK r) :
    ∃ raw, routesToBytes (rs.map Route.toArg) = .ok raw ∧
      Acc.classlessStaticRoute (o.update Code.classlessStaticRoute raw) = some rs := by
  have hread : ∀ r ∈ rs, r.toArg.read = r := fun r hr => by
    obtain ⟨g, hg, hgl⟩ := (h r hr).router
    have hd := (h r hr).dest
    cases r; simp only at hg hd; subst hg
    simp [Route.toArg, RouteArg.read, to4_of_length hd, to4_of_length hgl]
  have hok : ∀ a ∈ rs.map Route.toArg, RouteArgOK a := fun a ha => by
    obtain ⟨r, hr, rfl⟩ := List.mem_map.mp ha
    obtain ⟨g, hg, hgl⟩ := (h r hr).router
    exact ⟨⟨_, _, rfl, to4_of_length (h r hr).dest⟩, (h r hr).width, ⟨_, _, hg, to4_of_length hgl⟩,
      by rw [hread r hr]; exact (h r hr).host⟩
  have := routes_set_get_mapped o (rs.map Route.toArg) (by simpa using hne) hok
  rwa [List.map_map, (List.map_congr_left hread : rs.map (RouteArg.read ∘ Route.toArg) = rs.map id),
    List.map_id] at this

theorem chunks_ne_nil (c : UInt8) (v : Bytes) : chunks c v ≠ [] := by
  rw [chunks_eq_tlvs]
  exact flatMap_ne_nil (chunkInsts_ne_nil c v) (by simp [tlv])

theorem relayFromBytes_marshal (m : Opts) (h0 : m.f 0 = none) (h255 : m.f 255 = none) :
    relayFromBytes (marshalOpts m) = some m := by
  have := optsLoop'_marshalOpts m [] Opts.empty
  rw [List.append_nil, optsLoop'_nil, appAll_instsOf h0 h255] at this
  rw [relayFromBytes, optsFromBytes_noCheck, this]
  rfl

theorem relay_set_get (o : GOpts) (m : Opts) (h0 : m.f 0 = none) (h255 : m.f 255 = none)
    (hne : ∃ k, (m.f k).isSome) :
    Acc.relayAgentInfo (o.update Code.relayAgentInfo (relayToBytes m)) = some m := by
  obtain ⟨k, hk⟩ := hne
  have hmem : k ∈ marshalCodes m := (mem_marshalCodes m k).mpr
    ⟨hk, fun h => by simp [h, h0] at hk, fun h => by simp [h, h255] at hk⟩
  have hne' : marshalOpts m ≠ [] := flatMap_ne_nil (List.ne_nil_of_mem hmem) fun c _ => chunks_ne_nil c _
  simp [Acc.relayAgentInfo, GOpts.get_update_same, relayToBytes, goBuf_ne_nil hne',
    relayFromBytes_marshal m h0 h255]

end Dhcp.V4
