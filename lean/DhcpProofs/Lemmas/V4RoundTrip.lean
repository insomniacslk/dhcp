import Dhcp.V4.Domain
import DhcpProofs.Lemmas.V4Dec
import DhcpProofs.Lemmas.V4Marshal
/- Assembly of the C01 round trip from the header layout and option lemmas. -/
namespace Dhcp.V4

theorem ip4_length (ip : IP) (h : ipOK ip) : (ip4 ip).length = 4 := by
  cases ip with
  | none => simp [ip4]
  | some b =>
    simp only [ipOK] at h
    cases hb : to4 b with
    | none => simp [hb] at h
    | some v => simp [ip4, hb, to4_length hb]

theorem writeIP_eq (ip : IP) : writeIP ip = if ipOK ip then .ok (ip4 ip) else .panic := by
  cases ip with
  | none => rfl
  | some b =>
    cases hb : to4 b with
    | none => simp [writeIP, ipOK, hb]
    | some v => simp [writeIP, ipOK, ip4, hb, List.take_of_length_le (Nat.le_of_eq (to4_length hb))]

theorem nameField_length (cap : Nat) (s : Bytes) (h : 0 < cap) : (nameField cap s).length = cap := by
  simp [nameField, copyInto_length]; omega

theorem cutNul_nameField (cap : Nat) (s : Bytes) (hl : s.length ≤ cap - 1) (h : ∀ b ∈ s, b ≠ 0) :
    cutNul (nameField cap s) = s := by
  rw [nameField, copyInto_of_le hl, List.append_assoc, zeros, ← List.replicate_succ', List.replicate_succ,
    cutNul, List.takeWhile_append_of_pos (by simpa using h)]
  simp

/-- The shape is right-nested because that is the form `dec4_layout` rewrites. -/
theorem enc4_ok (p : Pkt4) (h : ipOK p.ciaddr ∧ ipOK p.yiaddr ∧ ipOK p.siaddr ∧ ipOK p.giaddr) :
    ∃ pad b, enc4 p = .ok b ∧ bootpMinLen ≤ b.length ∧
      b = p.op :: UInt8.ofNat p.htype :: UInt8.ofNat p.hw.length :: p.hops ::
      (copyInto 4 p.xid ++ (be16 p.secs ++ (be16 p.flags ++ (ip4 p.ciaddr ++ (ip4 p.yiaddr ++
      (ip4 p.siaddr ++ (ip4 p.giaddr ++ (copyInto chaddrLen p.hw ++ (nameField snameCap p.sname ++
      (nameField fileCap p.file ++ (magicCookie ++ (marshalOpts p.opts ++ optEnd :: zeros pad))))))))))))
      := by
  simp only [enc4, writeIP_eq, h.1, h.2.1, h.2.2.1, h.2.2.2, if_true, bind, Res.bind, pure]
  refine ⟨?pad, _, rfl, ?len, ?shape⟩
  case shape => simp only [List.append_assoc, List.cons_append, List.nil_append]; rfl
  case len => simp only [List.length_append, zeros_length]; omega

theorem enc4_dec4 (p : Pkt4) (h : Encodable p) :
    ∃ b, enc4 p = .ok b ∧ dec4 b = .ok (norm p) := by
  obtain ⟨pad, _, hb, _, rfl⟩ := enc4_ok p ⟨h.ci, h.yi, h.si, h.gi⟩
  refine ⟨_, hb, ?_⟩
  rw [dec4_layout (copyInto_length 4 p.xid) h.secs h.flags (ip4_length _ h.ci) (ip4_length _ h.yi)
    (ip4_length _ h.si) (ip4_length _ h.gi) (copyInto_length chaddrLen _)
    (nameField_length snameCap _ (by decide)) (nameField_length fileCap _ (by decide))
    (cookie := magicCookie) rfl]
  simp only [ne_eq, not_true_eq_false, if_false, optEnd, optsFromBytes_marshal h.no_pad h.no_end]
  have hhw : (UInt8.ofNat p.hw.length).toNat = p.hw.length :=
    UInt8.toNat_ofNat_lt (by have := h.hw; omega)
  have hht : (UInt8.ofNat p.htype).toNat = p.htype :=
    UInt8.toNat_ofNat_lt (by have := h.htype; omega)
  have hle : ¬ p.hw.length > 16 := by have := h.hw; omega
  simp only [if_false, hhw, hht, hle, norm,
    chaddrLen, copyInto_of_le h.hw, List.take_left, copyInto_of_length_eq h.xid,
    cutNul_nameField snameCap p.sname h.sname_len h.sname_nul,
    cutNul_nameField fileCap p.file h.file_len h.file_nul]

theorem enc4_panic_iff (p : Pkt4) :
    enc4 p = .panic ↔ ¬ (ipOK p.ciaddr ∧ ipOK p.yiaddr ∧ ipOK p.siaddr ∧ ipOK p.giaddr) := by
  constructor
  · intro hp h
    obtain ⟨_, _, hb, _⟩ := enc4_ok p h
    rw [hb] at hp; cases hp
  · intro h
    -- the first address that cannot be written makes `ToBytes` panic; those before it are written
    simp only [enc4, writeIP_eq, bind, Res.bind, pure]
    by_cases h1 : ipOK p.ciaddr <;> by_cases h2 : ipOK p.yiaddr <;> by_cases h3 : ipOK p.siaddr <;>
      by_cases h4 : ipOK p.giaddr <;> simp only [h1, h2, h3, h4, if_true, if_false]
    exact absurd ⟨h1, h2, h3, h4⟩ h

end Dhcp.V4
