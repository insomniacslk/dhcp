import DhcpProofs.Lemmas.V4Marshal
/-
  C07, map iteration order: `sortedKeysFrom it` (the code's `sortedKeys`
  run on the key order `it` that Go's runtime happens to yield) is
  `sortedKeys o` for EVERY permutation `it` of the key set of `o` — because the
  collected codes are sorted before 82 and 255 are appended.
-/
namespace Dhcp.V4
open List

theorem insertCode_perm (x : UInt8) (l : List UInt8) : (insertCode x l).Perm (x :: l) := by
  induction l with
  | nil => exact Perm.refl _
  | cons y ys ih =>
    unfold insertCode
    split
    · exact Perm.refl _
    · exact (Perm.cons y ih).trans (Perm.swap x y ys)

theorem sortCodes_perm (l : List UInt8) : (sortCodes l).Perm l := by
  induction l with
  | nil => exact Perm.refl _
  | cons x xs ih =>
    show (insertCode x (sortCodes xs)).Perm (x :: xs)
    exact (insertCode_perm x _).trans (Perm.cons x ih)

def Asc (l : List UInt8) : Prop := l.Pairwise (fun a b => a.toNat ≤ b.toNat)

theorem insertCode_asc (x : UInt8) (l : List UInt8) (h : Asc l) : Asc (insertCode x l) := by
  induction l with
  | nil => exact pairwise_singleton _ _
  | cons y ys ih =>
    unfold insertCode
    have hy := pairwise_cons.mp h
    split
    · next hxy =>
      exact pairwise_cons.mpr ⟨forall_mem_cons.mpr ⟨hxy, fun b hb => Nat.le_trans hxy (hy.1 b hb)⟩, h⟩
    · next hxy =>
      refine pairwise_cons.mpr ⟨fun b hb => ?_, ih hy.2⟩
      rcases mem_cons.mp ((insertCode_perm x ys).mem_iff.mp hb) with rfl | hb
      · omega
      · exact hy.1 b hb

theorem sortCodes_asc (l : List UInt8) : Asc (sortCodes l) := by
  induction l with
  | nil => exact Pairwise.nil
  | cons x xs ih => exact insertCode_asc x _ ih

theorem asc_perm_eq (l₁ l₂ : List UInt8) (h₁ : Asc l₁) (h₂ : Asc l₂) (hp : l₁.Perm l₂) : l₁ = l₂ :=
  hp.eq_of_pairwise (fun _ _ _ _ hab hba => UInt8.toNat_inj.mp (Nat.le_antisymm hab hba)) h₁ h₂

/-- `sort.Ints` specified: ANY function returning an ascending permutation of its
input returns what `sortCodes` returns — the model does not depend on which
sorting algorithm the standard library uses -/
theorem sortCodes_unique (l r : List UInt8) (hr : Asc r) (hp : r.Perm l) : r = sortCodes l :=
  asc_perm_eq r (sortCodes l) hr (sortCodes_asc l) (hp.trans (sortCodes_perm l).symm)

theorem sortCodes_eq_of_perm {l₁ l₂ : List UInt8} (h : l₁.Perm l₂) : sortCodes l₁ = sortCodes l₂ :=
  asc_perm_eq _ _ (sortCodes_asc _) (sortCodes_asc _)
    ((sortCodes_perm l₁).trans (h.trans (sortCodes_perm l₂).symm))

theorem sortCodes_of_asc {l : List UInt8} (h : Asc l) : sortCodes l = l :=
  (sortCodes_unique l l h (Perm.refl _)).symm

theorem keys_asc (o : Opts) : Asc o.keys :=
  (keys_sorted o).imp fun h => Nat.le_of_lt (UInt8.lt_iff_toNat_lt.mp h)

theorem sortedKeysFrom_eq (o : Opts) (it : List UInt8) (h : it.Perm o.keys) :
    sortedKeysFrom it = sortedKeys o := by
  unfold sortedKeysFrom sortedKeys
  have h1 : sortCodes (it.filter (fun k => k != optAgentInfo && k != optEnd)) =
      o.keys.filter (fun k => k != optAgentInfo && k != optEnd) := by
    rw [sortCodes_eq_of_perm (Perm.filter _ h)]
    exact sortCodes_of_asc (Pairwise.sublist filter_sublist (keys_asc o))
  have h2 : ∀ c, it.contains c = o.has c := by
    intro c
    rw [Bool.eq_iff_iff, contains_iff_mem, h.mem_iff, mem_keys]
    rfl
  rw [h1, h2, h2]

theorem marshalOptsFrom_eq (o : Opts) (it : List UInt8) (h : it.Perm o.keys) :
    marshalOptsFrom it o = marshalOpts o := by
  unfold marshalOptsFrom marshalOpts
  rw [sortedKeysFrom_eq o it h]

end Dhcp.V4
