import DhcpProofs.Lemmas.V4Build
/-
  Proofs of six of the C15 clauses (`reply_opcode`, `reply_echo`, `request_from_offer`, `release`,
  `inform`, `discover`; restated as `C15_*` in Props/C15.lean, which proves the others itself): each combines the frame
  lemma `build_*` (user modifiers that do not write a field leave the default)
  with the closed form `*_nil` of the builder without user modifiers; a lookup
  in the closed form's option map is computed by `simp` (`Opts.get_set`,
  `copyOpt_get`).
-/
namespace Dhcp.V4

theorem copiedValue_eq_some_iff (src : Pkt4) (c : UInt8) (v : Bytes) :
    copiedValue src c = some v ↔ src.opts.get c = some v ∧ v ≠ [] := by
  unfold copiedValue
  cases src.opts.get c with
  | none => simp
  | some w => cases w <;> simp +contextual [eq_comm]

theorem copied_spec (src : Pkt4) (c : UInt8) {x : Option Bytes} (hx : x = copiedValue src c) :
    (∀ v, src.opts.get c = some v → v ≠ [] → x = some v) ∧
    (x ≠ none ↔ ∃ v, src.opts.get c = some v ∧ v ≠ []) := by
  subst hx
  exact ⟨fun v a b => (copiedValue_eq_some_iff src c v).mpr ⟨a, b⟩,
    by simp only [Option.ne_none_iff_exists', copiedValue_eq_some_iff]⟩

theorem replyOp_ne (op : UInt8) : replyOp op ≠ op := by
  unfold replyOp
  by_cases h : op = opBootRequest
  · subst h; decide
  · simp only [h, if_false]; exact fun e => h e.symm

theorem reply_opcode (xid : Bytes) (req : Pkt4) (user : List Modifier) (h : NoWrite user .op) :
    (newReplyFromRequest xid req user).op ≠ req.op ∧
    (req.op = opBootRequest → (newReplyFromRequest xid req user).op = opBootReply) ∧
    (req.op ≠ opBootRequest → (newReplyFromRequest xid req user).op = opBootRequest) := by
  have e : (newReplyFromRequest xid req user).op = replyOp req.op := by
    unfold newReplyFromRequest; rw [build_op _ _ _ h, replyFromRequest_nil]
  rw [e]
  refine ⟨replyOp_ne _, fun h1 => by simp [replyOp, h1], fun h1 => by simp [replyOp, h1]⟩

theorem reply_echo (xid : Bytes) (req : Pkt4) (user : List Modifier) (c : UInt8)
    (hc : c = optAgentInfo ∨ c = optClientID) (h : NoWrite user (.opt c)) :
    ((newReplyFromRequest xid req user).opts.get c ≠ none ↔ ∃ v, req.opts.get c = some v ∧ v ≠ []) ∧
    (∀ v, req.opts.get c = some v → v ≠ [] → (newReplyFromRequest xid req user).opts.get c = some v) := by
  refine And.symm (copied_spec req c ?_)
  unfold newReplyFromRequest
  rw [build_opt _ _ _ c h, replyFromRequest_nil]
  rcases hc with rfl | rfl <;> simp [optAgentInfo, optClientID]

theorem request_from_offer (xid : Bytes) (offer : Pkt4) (user : List Modifier) :
    (NoWrite user .xid → (newRequestFromOffer xid offer user).xid = offer.xid) ∧
    (NoWrite user (.opt optMessageType) →
      (newRequestFromOffer xid offer user).opts.get optMessageType = some [mtRequest]) ∧
    (NoWrite user (.opt optRequestedIP) →
      (newRequestFromOffer xid offer user).opts.get optRequestedIP = some (ipTo4Bytes offer.yiaddr)) ∧
    (NoWrite user (.opt optServerID) →
      (∀ v, offer.opts.get optServerID = some v → v ≠ [] →
        (newRequestFromOffer xid offer user).opts.get optServerID = some v) ∧
      ((newRequestFromOffer xid offer user).opts.get optServerID ≠ none ↔
        ∃ v, offer.opts.get optServerID = some v ∧ v ≠ [])) ∧
    (NoWrite user (.opt optParamList) →
      (newRequestFromOffer xid offer user).opts.get optParamList = some [1, 3, 15, 6]) ∧
    (NoWrite user .ciaddr → (newRequestFromOffer xid offer user).ciaddr = offer.ciaddr) ∧
    (NoWrite user .hw → (newRequestFromOffer xid offer user).hw = offer.hw) ∧
    (NoWrite user .flags → (newRequestFromOffer xid offer user).flags = offer.flags) ∧
    (NoWrite user .op → (offer.op = opBootReply → (newRequestFromOffer xid offer user).op = opBootRequest)) := by
  unfold newRequestFromOffer
  refine ⟨fun h => ?_, fun h => ?_, fun h => ?_, fun h => copied_spec offer _ ?_, fun h => ?_, fun h => ?_,
    fun h => ?_, fun h => ?_, fun h ho => ?_⟩
  · rw [build_xid _ _ _ h, requestFromOffer_nil]
  · rw [build_opt _ _ _ _ h, requestFromOffer_nil]
    simp [optMessageType, optParamList, optServerID, optRequestedIP]
  · rw [build_opt _ _ _ _ h, requestFromOffer_nil]
    simp [optParamList, optServerID, optRequestedIP]
  · rw [build_opt _ _ _ _ h, requestFromOffer_nil]
    simp [optMessageType, optParamList, optServerID, optRequestedIP]
  · rw [build_opt _ _ _ _ h, requestFromOffer_nil]; rfl
  · rw [build_ciaddr _ _ _ h, requestFromOffer_nil]
  · rw [build_hw _ _ _ h, requestFromOffer_nil]
  · rw [build_flags _ _ _ h, requestFromOffer_nil]
  · rw [build_op _ _ _ h, requestFromOffer_nil]
    show replyOp offer.op = _
    rw [ho]; decide

theorem release (xid : Bytes) (ack : Pkt4) (user : List Modifier) :
    (NoWrite user (.opt optMessageType) →
      (newReleaseFromAck xid ack user).opts.get optMessageType = some [mtRelease]) ∧
    (NoWrite user .ciaddr → (newReleaseFromAck xid ack user).ciaddr = ack.yiaddr) ∧
    (NoWrite user .hw → (newReleaseFromAck xid ack user).hw = ack.hw) ∧
    (NoWrite user .flags → isBroadcast (newReleaseFromAck xid ack user) = false ∧
      (newReleaseFromAck xid ack user).flags = 0) ∧
    (NoWrite user .op → (newReleaseFromAck xid ack user).op = opBootRequest) ∧
    (NoWrite user (.opt optServerID) →
      (∀ v, ack.opts.get optServerID = some v → v ≠ [] →
        (newReleaseFromAck xid ack user).opts.get optServerID = some v) ∧
      ((newReleaseFromAck xid ack user).opts.get optServerID ≠ none ↔
        ∃ v, ack.opts.get optServerID = some v ∧ v ≠ [])) := by
  unfold newReleaseFromAck
  refine ⟨fun h => ?_, fun h => ?_, fun h => ?_, fun h => ?_, fun h => ?_, fun h => copied_spec ack _ ?_⟩
  · rw [build_opt _ _ _ _ h, releaseFromAck_nil]
    simp [optMessageType, optServerID]
  · rw [build_ciaddr _ _ _ h, releaseFromAck_nil]
  · rw [build_hw _ _ _ h, releaseFromAck_nil]
  · have e : (build (.releaseFromAck ack) xid user).flags = 0 := by
      rw [build_flags _ _ _ h, releaseFromAck_nil]; rfl
    refine ⟨?_, e⟩
    simp only [isBroadcast]; rw [e]; decide
  · rw [build_op _ _ _ h, releaseFromAck_nil]; rfl
  · rw [build_opt _ _ _ _ h, releaseFromAck_nil]
    simp [optMessageType, optServerID]

theorem inform (xid hw : Bytes) (localIP : IP) (user : List Modifier) :
    (NoWrite user (.opt optMessageType) →
      (newInform xid hw localIP user).opts.get optMessageType = some [mtInform]) ∧
    (NoWrite user .hw → (newInform xid hw localIP user).hw = hw) ∧
    (NoWrite user .ciaddr → (newInform xid hw localIP user).ciaddr = localIP) ∧
    (NoWrite user .op → (newInform xid hw localIP user).op = opBootRequest) ∧
    (NoWrite user .flags → (newInform xid hw localIP user).flags = 0) ∧
    (NoWrite user .xid → (newInform xid hw localIP user).xid = xid) := by
  unfold newInform
  refine ⟨fun h => ?_, fun h => ?_, fun h => ?_, fun h => ?_, fun h => ?_, fun h => ?_⟩
  · rw [build_opt _ _ _ _ h, inform_nil]; rfl
  · rw [build_hw _ _ _ h, inform_nil]
  · rw [build_ciaddr _ _ _ h, inform_nil]
  · rw [build_op _ _ _ h, inform_nil]; rfl
  · rw [build_flags _ _ _ h, inform_nil]; rfl
  · rw [build_xid _ _ _ h, inform_nil]; rfl

theorem discover (xid hw : Bytes) (user : List Modifier) :
    (NoWrite user (.opt optMessageType) →
      (newDiscovery xid hw user).opts.get optMessageType = some [mtDiscover]) ∧
    (NoWrite user .hw → (newDiscovery xid hw user).hw = hw) ∧
    (NoWrite user (.opt optParamList) →
      (newDiscovery xid hw user).opts.get optParamList = some [1, 3, 15, 6]) ∧
    (NoWrite user .op → (newDiscovery xid hw user).op = opBootRequest) ∧
    (NoWrite user .ciaddr → (newDiscovery xid hw user).ciaddr = some ipv4zero) ∧
    (NoWrite user .xid → (newDiscovery xid hw user).xid = xid) := by
  unfold newDiscovery
  refine ⟨fun h => ?_, fun h => ?_, fun h => ?_, fun h => ?_, fun h => ?_, fun h => ?_⟩
  · rw [build_opt _ _ _ _ h, discovery_nil]; rfl
  · rw [build_hw _ _ _ h, discovery_nil]
  · rw [build_opt _ _ _ _ h, discovery_nil]; rfl
  · rw [build_op _ _ _ h, discovery_nil]; rfl
  · rw [build_ciaddr _ _ _ h, discovery_nil]; rfl
  · rw [build_xid _ _ _ h, discovery_nil]; rfl

theorem mem_addCodes {l cs : List OptCode} {c : OptCode} : c ∈ addCodes l cs ↔ c ∈ l ∨ c ∈ cs := by
  unfold addCodes
  induction cs generalizing l with
  | nil => simp
  | cons a cs ih =>
    rw [List.foldl_cons, ih, List.mem_cons]
    split
    · next ha =>
      have ha : a ∈ l := by simpa using ha
      by_cases e : c = a <;> simp [e, ha]
    · simp [or_assoc]

/-- the user modifiers write none of the fields Table 5 speaks about -/
def NoWriteTable5 (user : List Modifier) : Prop :=
  NoWrite user .op ∧ NoWrite user .ciaddr ∧ NoWrite user .flags ∧ NoWrite user (.opt optMessageType) ∧
  NoWrite user (.opt optRequestedIP) ∧ NoWrite user (.opt optServerID)

instance (user : List Modifier) : Decidable (NoWriteTable5 user) := by
  unfold NoWriteTable5; infer_instance

end Dhcp.V4
