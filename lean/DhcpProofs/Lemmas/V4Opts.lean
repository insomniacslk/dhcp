import Dhcp.Spec.Wire4
import DhcpProofs.Lemmas.Basic
/- The DHCPv4 option loop: its equations, what it does on a list of
code/length/value instances, and that it accepts exactly the options-area
grammar `Spec.RunEnd` / `Spec.Area`.  (The two facts about `net.IP.To4` come first because
this is the one module that the packet codec and the accessor lemmas both import.) -/
namespace Dhcp.V4
open List Dhcp.Spec

theorem to4_length {b x : Bytes} (h : to4 b = some x) : x.length = 4 := by
  unfold to4 at h
  split at h
  · cases h; assumption
  · split at h
    · next h16 => cases h; simp [h16.1]
    · cases h

theorem to4_of_length {x : Bytes} (h : x.length = 4) : to4 x = some x := by simp [to4, h]

namespace Opts
@[simp] theorem set_f_same (o : Opts) (c : UInt8) (v : Bytes) : (o.set c v).f c = some v := by
  simp [set]
theorem set_f_ne (o : Opts) {c k : UInt8} (v : Bytes) (h : k ≠ c) : (o.set c v).f k = o.f k := by
  simp [set, h]
@[simp] theorem app_f_same (o : Opts) (c : UInt8) (v : Bytes) :
    (o.app c v).f c = some ((o.f c).getD [] ++ v) := by simp [app]
theorem app_f_ne (o : Opts) {c k : UInt8} (v : Bytes) (h : k ≠ c) : (o.app c v).f k = o.f k := by
  simp [app, set, h]
end Opts

/-- The option loop with exactly enough fuel. -/
def optsLoop' (l : Lexer) (o : Opts) : Option (Opts × Bool) := optsLoop (l.data.length + 1) l o

theorem optsFromBytes_eq (o : Opts) (data : Bytes) (checkEnd : Bool) :
    optsFromBytes o data checkEnd =
      if data.length = 0 then some o
      else match optsLoop' (Lexer.new data) o with
        | none => none
        | some (o', endSeen) => if !endSeen && checkEnd then none else some o' := rfl

theorem optsLoop_nil (f : Nat) (e : Bool) (o : Opts) : optsLoop (f + 1) ⟨[], e⟩ o = some (o, false) := by
  simp [optsLoop, Lexer.len]

theorem optsLoop_cons (f : Nat) (c : UInt8) (rest : Bytes) (e : Bool) (o : Opts) :
    optsLoop (f + 1) ⟨c :: rest, e⟩ o =
      if c = 0 then optsLoop f ⟨rest, e⟩ o
      else if c = 255 then some (o, true)
      else match rest with
        | [] => none
        | len :: r =>
          if len.toNat ≤ r.length ∧ e = false then
            optsLoop f ⟨r.drop len.toNat, e⟩ (o.app c (r.take len.toNat))
          else none := by
  cases rest with
  | nil => simp [optsLoop, Lexer.len, optPad, optEnd, Lexer.read8_nil, Lexer.consume]
  | cons len r =>
    simp only [optsLoop, Lexer.len, Lexer.consume, optPad, optEnd, Lexer.read8_cons, List.length_cons,
      ge_iff_le, Nat.le_add_left, if_true]
    by_cases hl : len.toNat ≤ r.length <;> cases e <;> simp [hl]

/-- Fuel irrelevance: every iteration takes at least one byte off the buffer, so any two fuels
above the number of unread bytes give the same result. -/
theorem optsLoop_fuel : ∀ (f1 f2 : Nat) (l : Lexer) (o : Opts),
    l.data.length < f1 → l.data.length < f2 → optsLoop f1 l o = optsLoop f2 l o :=
  Lexer.loop_fuel optsLoop fun f g ⟨d, e⟩ o ih => by
    match d with
    | [] => rw [optsLoop_nil, optsLoop_nil]
    | [c] => rw [optsLoop_cons, optsLoop_cons, ih ⟨[], e⟩ o (by simp)]
    | c :: len :: r =>
      simp only [optsLoop_cons, ih ⟨len :: r, e⟩ o (by simp), ih ⟨r.drop len.toNat, e⟩ _ (by simp; omega)]

theorem optsLoop'_nil (e : Bool) (o : Opts) : optsLoop' ⟨[], e⟩ o = some (o, false) := optsLoop_nil 0 e o

theorem optsFromBytes_noCheck (o : Opts) (data : Bytes) :
    optsFromBytes o data false = (optsLoop' ⟨data, false⟩ o).map (·.1) := by
  rw [optsFromBytes_eq]
  match data with
  | [] => simp [optsLoop'_nil]
  | _ :: _ =>
    simp only [List.length_cons, Nat.add_one_ne_zero, if_false, Lexer.new, Bool.and_false]
    cases optsLoop' _ o <;> rfl

theorem optsLoop'_cons (c : UInt8) (rest : Bytes) (o : Opts) :
    optsLoop' ⟨c :: rest, false⟩ o =
      if c = 0 then optsLoop' ⟨rest, false⟩ o
      else if c = 255 then some (o, true)
      else match rest with
        | [] => none
        | len :: r =>
          if len.toNat ≤ r.length then optsLoop' ⟨r.drop len.toNat, false⟩ (o.app c (r.take len.toNat))
          else none := by
  unfold optsLoop'
  rw [optsLoop_cons]
  cases rest with
  | nil => rfl
  | cons len r =>
    simp only [and_true]
    rw [optsLoop_fuel _ ((r.drop len.toNat).length + 1) ⟨r.drop len.toNat, false⟩ _ (by simp; omega)
      (Nat.lt_succ_self _)]
    rfl

theorem optsLoop'_end (rest : Bytes) (o : Opts) : optsLoop' ⟨255 :: rest, false⟩ o = some (o, true) := by
  simp [optsLoop'_cons]

def appAll (o : Opts) (is : List (UInt8 × Bytes)) : Opts := is.foldl (fun o i => o.app i.1 i.2) o

def tlv (i : UInt8 × Bytes) : Bytes := i.1 :: UInt8.ofNat i.2.length :: i.2

/-- an instance that the loop reads back as itself -/
def InstOK (i : UInt8 × Bytes) : Prop := i.1 ≠ 0 ∧ i.1 ≠ 255 ∧ i.2.length ≤ 255

theorem optsLoop'_inst {i : UInt8 × Bytes} (h : InstOK i) (rest : Bytes) (o : Opts) :
    optsLoop' ⟨tlv i ++ rest, false⟩ o = optsLoop' ⟨rest, false⟩ (o.app i.1 i.2) := by
  have hl : (UInt8.ofNat i.2.length).toNat = i.2.length := UInt8.toNat_ofNat_lt (by have := h.2.2; omega)
  simp [tlv, optsLoop'_cons, h.1, h.2.1, hl]

theorem optsLoop'_tlvs (rest : Bytes) : ∀ (is : List (UInt8 × Bytes)) (o : Opts), (∀ i ∈ is, InstOK i) →
    optsLoop' ⟨is.flatMap tlv ++ rest, false⟩ o = optsLoop' ⟨rest, false⟩ (appAll o is)
  | [], o, _ => rfl
  | i :: is, o, h => by
    rw [List.flatMap_cons, List.append_assoc, optsLoop'_inst (h i mem_cons_self),
      optsLoop'_tlvs rest is _ (fun j hj => h j (mem_cons_of_mem _ hj))]
    rfl

theorem appAll_f (is : List (UInt8 × Bytes)) : ∀ (o : Opts) (c : UInt8),
    (appAll o is).f c =
      if (is.filter (fun i => i.1 = c)).isEmpty then o.f c
      else some ((o.f c).getD [] ++ (is.filter (fun i => i.1 = c)).flatMap (·.2)) := by
  induction is with
  | nil => intro o c; rfl
  | cons i is ih =>
    intro o c
    rw [appAll, List.foldl_cons, ← appAll, ih, List.filter_cons]
    by_cases hc : i.1 = c
    · subst hc
      cases is.filter (fun j => decide (j.1 = i.1)) <;> simp
    · simp only [hc, decide_false, Bool.false_eq_true, if_false, Opts.app_f_ne _ _ (Ne.symm hc)]

theorem appAll_empty_f (is : List (UInt8 × Bytes)) (c : UInt8) :
    (appAll Opts.empty is).f c = valueOf is c := by
  rw [appAll_f]
  simp [valueOf, Opts.empty]

theorem optsLoop'_of_RunEnd {a : Bytes} {is : List (UInt8 × Bytes)} (h : RunEnd a is) :
    ∀ o, optsLoop' ⟨a, false⟩ o = some (appAll o is, true) := by
  induction h with
  | fin tail => intro o; simp [optsLoop'_cons, appAll]
  | pad _ ih => intro o; simp [optsLoop'_cons, ih]
  | @opt rest is c len v h0 h255 hv _ ih =>
    intro o
    rw [optsLoop'_cons]
    simp only [h0, h255, if_false, ← hv, List.length_append, Nat.le_add_right, if_true, List.take_left',
      List.drop_left', ih]
    rfl

theorem RunEnd_of_optsLoop : ∀ (f : Nat) (a : Bytes) (o o' : Opts),
    optsLoop f ⟨a, false⟩ o = some (o', true) → ∃ is, RunEnd a is ∧ o' = appAll o is
  | 0, _, _, _, h => by cases h
  | f + 1, [], o, o', h => by rw [optsLoop_nil] at h; cases h
  | f + 1, c :: rest, o, o', h => by
    rw [optsLoop_cons] at h
    split at h
    · next h0 =>
      obtain ⟨is, hr, ho⟩ := RunEnd_of_optsLoop f rest o o' h
      exact ⟨is, h0 ▸ .pad hr, ho⟩
    split at h
    · next h255 => cases h; exact ⟨[], h255 ▸ .fin rest, rfl⟩
    split at h
    · cases h
    · next h0 h255 _ len r =>
      split at h
      · next hl =>
        obtain ⟨is, hr, ho⟩ := RunEnd_of_optsLoop f _ _ o' h
        have := RunEnd.opt c len (r.take len.toNat) h0 h255 (by simp [hl.1]) hr
        rw [List.take_append_drop] at this
        exact ⟨_, this, ho⟩
      · cases h

theorem optsFromBytes_checkEnd_iff (a : Bytes) (o' : Opts) :
    optsFromBytes Opts.empty a true = some o' ↔
      ∃ is, Area a is ∧ o' = appAll Opts.empty is := by
  rw [optsFromBytes_eq]
  cases a with
  | nil =>
    refine ⟨fun h => ⟨[], .inl ⟨rfl, rfl⟩, (Option.some.inj h).symm⟩, fun ⟨is, hA, e⟩ => ?_⟩
    rcases hA with ⟨_, rfl⟩ | hA
    · exact congrArg some e.symm
    · nomatch hA
  | cons c r =>
    have key : optsLoop' ⟨c :: r, false⟩ Opts.empty = some (o', true) ↔
        ∃ is, Area (c :: r) is ∧ o' = appAll Opts.empty is := by
      refine ⟨fun h => ?_, fun ⟨is, hA, e⟩ => ?_⟩
      · obtain ⟨is, hr, e⟩ := RunEnd_of_optsLoop _ _ _ _ h
        exact ⟨is, .inr hr, e⟩
      · rcases hA with ⟨h, _⟩ | hA
        · nomatch h
        · exact e ▸ optsLoop'_of_RunEnd hA _
    rw [← key, Lexer.new]
    rcases optsLoop' ⟨c :: r, false⟩ Opts.empty with _ | ⟨o, _ | _⟩ <;> simp

theorem RunEnd_tlvs {rest : Bytes} {js : List (UInt8 × Bytes)} (hr : RunEnd rest js) :
    ∀ is : List (UInt8 × Bytes), (∀ i ∈ is, InstOK i) → RunEnd (is.flatMap tlv ++ rest) (is ++ js)
  | [], _ => hr
  | i :: is, h => by
    have hi := h i mem_cons_self
    have := RunEnd.opt i.1 (UInt8.ofNat i.2.length) i.2 hi.1 hi.2.1
      (UInt8.toNat_ofNat_lt (by have := hi.2.2; omega)).symm
      (RunEnd_tlvs hr is (fun j hj => h j (mem_cons_of_mem _ hj)))
    simpa [tlv] using this

end Dhcp.V4
