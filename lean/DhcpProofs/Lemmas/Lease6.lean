import Dhcp.Client.Lease
import DhcpProofs.Lemmas.V6BuildMsg
/-
  C13 helper lemmas, DHCPv6 side: the abstract call of nclient6, the SOLICIT
  builder, and what `call6` makes of a built message.
-/
namespace Dhcp.Client.Lease
open Dhcp.V6

theorem isMessageType6_iff (t : UInt8) (tt : List UInt8) (m : Msg6) :
    isMessageType6 t tt m = true ↔ m.typ = t ∨ m.typ ∈ tt := by
  unfold isMessageType6
  simp [List.any_eq_true]

theorem sendAndRead6_nil_matcher (stream : List Msg6) : sendAndRead6 stream none = stream.head? := rfl

theorem sendAndRead6_some_iff (stream : List Msg6) (f : Msg6 → Bool) (r : Msg6) :
    sendAndRead6 stream (some f) = some r ↔
      f r = true ∧ ∃ pre post, stream = pre ++ r :: post ∧ ∀ q ∈ pre, f q = false := by
  unfold sendAndRead6
  simp only
  rw [List.find?_eq_some_iff_append]
  simp

theorem sendAndRead6_none_iff (stream : List Msg6) (f : Msg6 → Bool) :
    sendAndRead6 stream (some f) = none ↔ ∀ q ∈ stream, f q = false := by
  unfold sendAndRead6
  simp

theorem call6_ok (m : Msg6) (stream : List Msg6) (mt : Matcher6) :
    (call6 (.ok m) stream mt).sent = [m] ∧
    (call6 (.ok m) stream mt).res =
      (match sendAndRead6 stream mt with
       | some r => .msg r
       | none => .errNoResponse) := ⟨rfl, rfl⟩

theorem call6_msg_iff (m : Msg6) (stream : List Msg6) (f : Msg6 → Bool) (r : Msg6) :
    (call6 (.ok m) stream (some f)).res = .msg r ↔ stream.find? f = some r := by
  simp only [call6, sendAndRead6]
  cases stream.find? f <;> simp

theorem call6_noResponse_iff (m : Msg6) (stream : List Msg6) (f : Msg6 → Bool) :
    (call6 (.ok m) stream (some f)).res = .errNoResponse ↔ stream.find? f = none := by
  simp only [call6, sendAndRead6]
  cases stream.find? f <;> simp

theorem newSolicit_rapid {xid : Bytes} {time : Nat} {hw : Bytes} {mods : List Mod6} {sol : Msg6}
    (h : newSolicit xid time hw (mods ++ [.rapidCommit]) = .ok sol) :
    getOne ocRapidCommit sol.opts = some (.generic ocRapidCommit []) := by
  unfold newSolicit at h
  split at h
  · cases h
  · rw [← List.cons_append, applyMods_append] at h
    generalize applyMods _ (Mod6.iaid _ :: mods) = r at h
    cases r with
    | err => cases h
    | panic => cases h
    | ok m' =>
      simp only [Res.bind, applyMods, applyMod] at h
      cases h
      cases m' with
      | msg t x os => exact getOne_update_self (.generic ocRapidCommit []) os
      | relay t hc l p os => exact getOne_update_self (.generic ocRapidCommit []) os

theorem newSolicit_nil (xid : Bytes) (time : Nat) (hw : Bytes) (h : 4 ≤ hw.length) :
    newSolicit xid time hw [] =
      .ok (.msg mtSolicit xid
        [.clientID (.llt hwTypeEthernet time hw), .oro [ocDNS, ocDomainSearchList], .elapsed 0,
         .iana (copyInto 4 (hw.drop (hw.length - 4))) 0 0 []]) := by
  unfold newSolicit
  have : ¬ hw.length < 4 := by omega
  rw [if_neg this]
  simp [applyMods, applyMod, oneIANAOf, ianasOf, V6.get, Opt6.code, ocIANA, Res.map, Res.bind,
    Msg6.updateOption, update]

theorem newSolicit_short (xid : Bytes) (time : Nat) (hw : Bytes) (mods : List Mod6) (h : hw.length < 4) :
    newSolicit xid time hw mods = .err := by
  unfold newSolicit
  rw [if_pos h]

end Dhcp.Client.Lease
