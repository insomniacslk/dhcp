import DhcpProofs.Lemmas.V4Opts
import DhcpProofs.Lemmas.V4Dec
/- dec4 against the declarative packet grammar `Spec.Parses4`. -/
namespace Dhcp.V4
open Dhcp.Spec

theorem dec4_ok_iff (b : Bytes) (p : Pkt4) :
    dec4 b = .ok p ↔ 240 ≤ b.length ∧ slice b 236 240 = magicCookie ∧
      ∃ o, optsFromBytes Opts.empty (b.drop 240) true = some o ∧ hdr4 b o = p := by
  by_cases h : 240 ≤ b.length
  · rw [dec4_of_len b h]
    by_cases hc : slice b 236 240 = magicCookie
    · cases optsFromBytes Opts.empty (b.drop 240) true <;> simp [h, hc]
    · simp [hc]
  · simp [dec4_short b (by omega), h]

theorem dec4_ne_panic (b : Bytes) : dec4 b ≠ .panic := by
  by_cases h : 240 ≤ b.length
  · rw [dec4_of_len b h]
    split
    · simp
    · split <;> simp
  · rw [dec4_short b (by omega)]; simp

theorem parses4_hdr4 {b : Bytes} {is : List (UInt8 × Bytes)} (hlen : 240 ≤ b.length)
    (hc : slice b 236 240 = magicCookie) (hA : Area (b.drop 240) is) :
    Parses4 b (hdr4 b (appAll Opts.empty is)) := by
  obtain ⟨op, hop⟩ := List.length_eq_one_iff.mp (slice_length b 0 1 (by omega))
  obtain ⟨ht, hht⟩ := List.length_eq_one_iff.mp (slice_length b 1 2 (by omega))
  obtain ⟨hops, hhops⟩ := List.length_eq_one_iff.mp (slice_length b 3 4 (by omega))
  refine { len := hlen, cookie := hc, op := ?_, htype := ?_, hw := rfl, hops := ?_, xid := rfl,
           secs := rfl, flags := rfl, ci := rfl, yi := rfl, si := rfl, gi := rfl, sname := rfl,
           file := rfl, opts := ⟨is, hA, appAll_empty_f is⟩ }
  · simp [hdr4, hop]
  · simp only [hdr4, hht, beNat, List.foldl_cons, List.foldl_nil, Nat.zero_mul, Nat.zero_add]
    exact ⟨by simp, UInt8.toNat_lt ht⟩
  · simp [hdr4, hhops]

theorem hdr4_of_parses4 {b : Bytes} {p : Pkt4} (h : Parses4 b p) :
    ∃ is, Area (b.drop 240) is ∧ hdr4 b (appAll Opts.empty is) = p := by
  obtain ⟨is, hA, hf⟩ := h.opts
  refine ⟨is, hA, ?_⟩
  have hopts : appAll Opts.empty is = p.opts := Opts.ext' fun c => by rw [appAll_empty_f, hf]
  have hhtype : beNat (slice b 1 2) = p.htype := by
    rw [← h.htype.1]
    simp only [beNat, List.foldl_cons, List.foldl_nil, Nat.zero_mul, Nat.zero_add]
    exact UInt8.toNat_ofNat_lt h.htype.2
  cases p
  simp only [hdr4, hopts, ← h.op, ← h.hops, hhtype, ← h.hw, ← h.xid, ← h.secs, ← h.flags, ← h.ci, ← h.yi,
    ← h.si, ← h.gi, cutNul, ← h.sname, ← h.file, List.headD_cons]

theorem dec4_sound (b : Bytes) (p : Pkt4) (h : dec4 b = .ok p) : Parses4 b p := by
  obtain ⟨hlen, hc, o, ho, rfl⟩ := (dec4_ok_iff b p).mp h
  obtain ⟨is, hA, rfl⟩ := (optsFromBytes_checkEnd_iff _ _).mp ho
  exact parses4_hdr4 hlen hc hA

theorem dec4_complete (b : Bytes) (p : Pkt4) (h : Parses4 b p) : dec4 b = .ok p := by
  obtain ⟨is, hA, hp⟩ := hdr4_of_parses4 h
  exact (dec4_ok_iff b p).mpr ⟨h.len, h.cookie, _, (optsFromBytes_checkEnd_iff _ _).mpr ⟨is, hA, rfl⟩, hp⟩

end Dhcp.V4
