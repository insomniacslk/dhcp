import Dhcp.Client.Lease
import DhcpProofs.Lemmas.V4ValAcc
import DhcpProofs.Lemmas.V4ValDecoded
import DhcpProofs.Lemmas.V4Build
/-
  C13 helper lemmas, DHCPv4 side: what the two typed accessors the matchers
  use compute in terms of the raw option value, `net.IP.Equal`, the matcher of
  `RequestFromOffer` / `Renew`, the abstract call and what `completion` makes of its
  answer, and the maximum-message-size modifier nclient4 puts before the user's
  (`noWrite_mms`, `build_mms`).
-/
namespace Dhcp.Client.Lease
open Dhcp.V4

theorem messageType_eq (p : Pkt4) :
    messageType p = (match p.opts.get optMessageType with
      | some [b] => b
      | _ => 0) := by
  show Acc.messageType p.opts.toG = _
  rw [Acc.messageType_reads, Opts.toG_get, show p.opts.f Code.messageType = p.opts.get optMessageType from rfl]
  match p.opts.get optMessageType with
  | none | some [] | some [_] | some (_ :: _ :: _) => rfl

theorem serverIdentifier_eq (p : Pkt4) :
    serverIdentifier p = (match p.opts.get optServerID with
      | some [a, b, c, d] => some [a, b, c, d]
      | _ => none) := by
  show getIP Code.serverIdentifier p.opts.toG = _
  rw [getIP_reads, Opts.toG_get, show p.opts.f Code.serverIdentifier = p.opts.get optServerID from rfl]
  match p.opts.get optServerID with
  | none | some [] | some [_] | some [_, _] | some [_, _, _] | some [_, _, _, _]
  | some (_ :: _ :: _ :: _ :: _ :: _) => rfl

theorem serverIdentifier_of_len4 {p : Pkt4} {v : Bytes} (h : p.opts.get optServerID = some v)
    (hl : v.length = 4) : serverIdentifier p = some v := by
  rw [serverIdentifier_eq, h]
  match v, hl with
  | [_, _, _, _], _ => rfl

theorem serverIdentifier_of_not_len4 {p : Pkt4} {v : Bytes} (h : p.opts.get optServerID = some v)
    (hl : v.length ≠ 4) : serverIdentifier p = none := by
  rw [serverIdentifier_eq, h]
  match v, hl with
  | [], _ | [_], _ | [_, _], _ | [_, _, _], _ | _ :: _ :: _ :: _ :: _ :: _, _ => rfl
  | [_, _, _, _], hl => exact absurd rfl hl

theorem serverIdentifier_of_absent {p : Pkt4} (h : p.opts.get optServerID = none) :
    serverIdentifier p = none := by
  rw [serverIdentifier_eq, h]

theorem serverIdentifier_cases (p : Pkt4) :
    serverIdentifier p = none ∨
      ∃ v, serverIdentifier p = some v ∧ v.length = 4 ∧ p.opts.get optServerID = some v := by
  rw [serverIdentifier_eq]
  cases h : p.opts.get optServerID with
  | none => exact .inl rfl
  | some v =>
    match v with
    | [] | [_] | [_, _] | [_, _, _] | _ :: _ :: _ :: _ :: _ :: _ => exact .inl rfl
    | [a, b, c, d] => exact .inr ⟨[a, b, c, d], rfl, rfl, rfl⟩

theorem ipEqual_refl (ip : IP) : ipEqual ip ip = true := by
  unfold ipEqual; simp

theorem ipEqual_same_len {a b : Bytes} (h : a.length = b.length) :
    ipEqual (some a) (some b) = true ↔ a = b := by
  unfold ipEqual; simp [h]

theorem ipEqual_some_none {a : Bytes} (h : a.length = 4) : ipEqual (some a) none = false := by
  unfold ipEqual; simp [h]

theorem ipEqual_none_some {a : Bytes} (h : a.length = 4) : ipEqual none (some a) = false := by
  unfold ipEqual; simp [h]

theorem ipEqual_4_16 {a b : Bytes} (ha : a.length = 4) (hb : b.length = 16) :
    ipEqual (some a) (some b) = true ↔ b = v4InV6Prefix ++ a := by
  unfold ipEqual
  simp only [Option.getD_some, ha, hb]
  simp only [show (4 : Nat) = 16 ↔ False by decide, if_false, and_self, if_true, Bool.and_eq_true, beq_iff_eq]
  constructor
  · rintro ⟨h1, h2⟩
    rw [← List.take_append_drop 12 b, h1, h2]
  · intro h
    subst h
    have : v4InV6Prefix.length = 12 := by decide
    simp [this]

/-- A typed server identifier is nil or four bytes long, and between such addresses `Equal` is equality. -/
theorem ipEqual_serverIdentifier (p q : Pkt4) :
    ipEqual (serverIdentifier p) (serverIdentifier q) = true ↔ serverIdentifier p = serverIdentifier q := by
  rcases serverIdentifier_cases p with hp | ⟨v, hp, hv, _⟩ <;>
    rcases serverIdentifier_cases q with hq | ⟨u, hq, hu, _⟩ <;> rw [hp, hq]
  · simp [ipEqual_refl]
  · simp [ipEqual_none_some hu]
  · simp [ipEqual_some_none hv]
  · simp [ipEqual_same_len (hv.trans hu.symm)]

/-- the test of the property text: message type ACK or NAK and a server
identifier `Equal` to the offer's -/
def Completes (offer p : Pkt4) : Prop :=
  (messageType p = mtAck ∨ messageType p = mtNak) ∧
    ipEqual (serverIdentifier p) (serverIdentifier offer) = true

instance (offer p : Pkt4) : Decidable (Completes offer p) := by unfold Completes; infer_instance

theorem isMessageType_iff (t : UInt8) (tt : List UInt8) (p : Pkt4) :
    isMessageType t tt p = true ↔ messageType p = t ∨ messageType p ∈ tt := by
  unfold isMessageType
  simp [List.any_eq_true]

theorem ackNakMatcher_iff (offer p : Pkt4) : ackNakMatcher offer p = true ↔ Completes offer p := by
  unfold ackNakMatcher isAll Completes
  simp only [List.all_cons, List.all_nil, Bool.and_true, Bool.and_eq_true, isMessageType_iff,
    isCorrectServer, List.mem_singleton]
  exact And.comm

theorem offerMatcher_iff (p : Pkt4) : offerMatcher p = true ↔ messageType p = mtOffer := by
  unfold offerMatcher
  simp [isMessageType_iff]

theorem find?_some_iff_of_spec {α : Type} {m : α → Bool} {P : α → Prop} (hm : ∀ q, m q = true ↔ P q) (l : List α)
    (r : α) : l.find? m = some r ↔ P r ∧ ∃ pre post, l = pre ++ r :: post ∧ ∀ q ∈ pre, ¬ P q := by
  simp only [List.find?_eq_some_iff_append, hm, Bool.not_eq_true', ← Bool.not_eq_true]

theorem find?_none_iff_of_spec {α : Type} {m : α → Bool} {P : α → Prop} (hm : ∀ q, m q = true ↔ P q) (l : List α) :
    l.find? m = none ↔ ∀ q ∈ l, ¬ P q := by
  simp only [List.find?_eq_none, hm]

theorem sendAndRead_some_iff (stream : List Pkt4) (m : Matcher) (r : Pkt4) :
    sendAndRead stream m = some r ↔
      m r = true ∧ ∃ pre post, stream = pre ++ r :: post ∧ ∀ q ∈ pre, m q = false := by
  unfold sendAndRead
  rw [List.find?_eq_some_iff_append]
  simp

theorem sendAndRead_none_iff (stream : List Pkt4) (m : Matcher) :
    sendAndRead stream m = none ↔ ∀ q ∈ stream, m q = false := by
  unfold sendAndRead
  simp

theorem completion_lease_iff (offer : Pkt4) (ans : Option Pkt4) (o a : Pkt4) :
    completion offer ans = .lease o a ↔ o = offer ∧ ans = some a ∧ messageType a ≠ mtNak := by
  unfold completion
  cases ans with
  | none => simp
  | some r =>
    by_cases h : messageType r = mtNak
    · simp [h]
      intro _ h2; subst h2; exact h
    · simp [h]
      constructor
      · rintro ⟨rfl, rfl⟩; exact ⟨rfl, rfl, h⟩
      · rintro ⟨rfl, rfl, _⟩; exact ⟨rfl, rfl⟩

theorem completion_nak_iff (offer : Pkt4) (ans : Option Pkt4) (o n : Pkt4) :
    completion offer ans = .errNak o n ↔ o = offer ∧ ans = some n ∧ messageType n = mtNak := by
  unfold completion
  cases ans with
  | none => simp
  | some r =>
    by_cases h : messageType r = mtNak
    · simp [h]
      constructor
      · rintro ⟨rfl, rfl⟩; exact ⟨rfl, rfl, h⟩
      · rintro ⟨rfl, rfl, _⟩; exact ⟨rfl, rfl⟩
    · simp [h]
      intro _ h2; subst h2; exact h

theorem completion_none_iff (offer : Pkt4) (ans : Option Pkt4) :
    completion offer ans = .errNoResponse ↔ ans = none := by
  unfold completion
  cases ans with
  | none => simp
  | some r => by_cases h : messageType r = mtNak <;> simp [h]

theorem noWrite_mms {user : List Modifier} {f : Field} (h : NoWrite user f)
    (hf : f ≠ .opt optMaxMsgSize := by decide) : NoWrite (prependModifiers user [mmsMod]) f := by
  intro m hm
  simp only [prependModifiers, List.singleton_append, List.mem_cons] at hm
  rcases hm with rfl | hm
  · cases f <;> simp [mmsMod, Modifier.writes, OptVal.code] at hf ⊢
    intro h; exact hf (h ▸ rfl)
  · exact h m hm

theorem build_mms (b : Builder) (xid : Bytes) (user : List Modifier)
    (h : NoWrite user (.opt optMaxMsgSize)) :
    (build b xid (prependModifiers user [mmsMod])).opts.get optMaxMsgSize = some [5, 220] := by
  rw [build_eq]
  have hp : prependModifiers user [mmsMod] = [mmsMod] ++ user := rfl
  rw [hp, applyAll_append]
  have := applyAll_frame user (.opt optMaxMsgSize) h (applyAll [mmsMod] (build b xid []))
  simp only [Pkt4.field, FieldVal.optv.injEq] at this
  rw [this]
  simp [applyAll, apply, mmsMod, setOpt, OptVal.code, OptVal.bytes, maxMessageSize]
  decide

end Dhcp.Client.Lease
