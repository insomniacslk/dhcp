import DhcpProofs.Lemmas.C03Strings
import DhcpProofs.Lemmas.LabelApi
import Dhcp.V4.Observe
/-
  C03 over the ztpv4 and netboot observers of a DHCPv4 packet (model:
  Dhcp/V4/Observe.lean).  They hold for EVERY option map, decoded or not: the
  typed accessors they read through cannot panic, and every index into a
  `strings.Split` result is covered by a length test — or, in the one place
  where the source has none (`p[1]` in the `Juniper-` case), by the prefix
  test that selected the case.
-/
namespace Dhcp.V4.Obs
open Dhcp.Str

theorem dash_mem_juniper : (45 : UInt8) ∈ pfxJuniperDash := by decide

theorem parseClassIdentifier_ne_panic (o : GOpts) : parseClassIdentifier o ≠ .panic := by
  unfold parseClassIdentifier
  refine ite_ne (fun _ => ?arista) fun _ => ite_ne (fun _ => ?zpe) fun _ => ite_ne (fun hj => ?juniperDash) fun _ =>
    ite_ne (fun _ => ?juniperColon) fun _ => ite_ne (fun _ => ?ciena) fun _ => ite_ne (fun _ => ?cisco) fun _ => nofun
  case arista => exact ite_ne (fun _ => nofun) fun _ => pick3_ne_panic _ (by omega) (by omega) (by omega)
  case zpe => exact ite_ne (fun _ => nofun) fun _ => pick3_ne_panic _ (by omega) (by omega) (by omega)
  case juniperDash =>
    -- no length test before `p[1]`: the prefix contains the separator, so there are two pieces
    have h2 : 2 ≤ (split (Acc.classIdentifier o) sepDash).length := split_two_of_hasPrefix (d := 45) hj dash_mem_juniper
    refine Res.bind_ne_panic (ite_ne (fun _ => ?_) fun _ => ?_) fun (m, s) _ => ?_
    · rw [idx_bind (by omega)]; exact ite_ne (fun _ => nofun) fun _ => nofun
    · rw [idx_bind (by omega)]; nofun
    · show (idx _ 0).bind _ ≠ _
      rw [idx_bind (by omega)]; nofun
  case juniperColon => exact ite_ne (fun _ => pick3_ne_panic _ (by omega) (by omega) (by omega)) fun _ => nofun
  case ciena =>
    refine ite_ne (fun _ => nofun) fun _ => ?_
    rw [idx_bind (by omega), idx_bind (by omega)]
    exact ite_ne (fun _ => nofun) fun _ => nofun
  case cisco => exact ite_ne (fun _ => nofun) fun _ => nofun

theorem vivcFields_ne_panic : ∀ (fs : List Bytes) (acc : Bytes × Bytes), vivcFields fs acc ≠ .panic
  | [], _ => nofun
  | f :: fs, acc => by
    simp only [vivcFields]
    refine ite_ne (fun _ => nofun) fun h2 => ?_
    have h2' : (split f sepColon).length = 2 := by simpa using h2
    rw [idx_bind (by omega), idx_bind (by omega)]
    exact vivcFields_ne_panic fs _

theorem parseVIVC_ne_panic (o : GOpts) : parseVIVC o ≠ .panic := by
  unfold parseVIVC
  split
  · nofun
  · exact Res.map_ne_panic (vivcFields_ne_panic _ _)

theorem parseVendorData_ne_panic (o : GOpts) : parseVendorData o ≠ .panic := by
  unfold parseVendorData
  rcases Res.of_ne_panic (parseClassIdentifier_ne_panic o) with e | ⟨_ | vd, e⟩ <;> simp only [e]
  · nofun
  · rcases Res.of_ne_panic (parseVIVC_ne_panic o) with e | ⟨_ | vd, e⟩ <;> simp only [e] <;> nofun
  · nofun

theorem parseCircuitID_ne_panic {γ : Type} (mc : Bytes → Option γ) (o : GOpts) : parseCircuitID mc o ≠ .panic := by
  unfold parseCircuitID
  split
  · nofun
  · refine ite_ne (fun _ => nofun) fun _ => ?_
    split <;> nofun

theorem domainSearch_ne_panic (o : GOpts) : Acc.domainSearch o ≠ .panic := by
  unfold Acc.domainSearch
  split
  · nofun
  · next v _ => rcases Res.of_ne_panic (Label.fromBytes_ne_panic v) with e | ⟨l, e⟩ <;> simp only [e] <;> nofun

theorem getNetConfFromPacketv4_ne_panic (yi : IP) (o : GOpts) : getNetConfFromPacketv4 yi o ≠ .panic := by
  unfold getNetConfFromPacketv4
  refine ite_ne (fun _ => nofun) fun _ => ?_
  split
  · nofun
  · refine ite_ne (fun _ => nofun) fun _ => ?_
    rcases Res.of_ne_panic (domainSearch_ne_panic o) with e | ⟨ds, e⟩ <;> simp only [e]
    · nofun
    · split
      · nofun
      · exact ite_ne (fun _ => nofun) fun _ => nofun

theorem conversationToNetconfv4_ne_panic (conv : List Pkt4) : conversationToNetconfv4 conv ≠ .panic := by
  unfold conversationToNetconfv4
  split
  · nofun
  · exact Res.map_ne_panic (getNetConfFromPacketv4_ne_panic _ _)

end Dhcp.V4.Obs
