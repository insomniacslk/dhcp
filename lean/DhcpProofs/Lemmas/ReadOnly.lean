import Dhcp.ReadOnly
/- What a sequence of read operations without effect returns (C20). -/
namespace Dhcp.ReadOnly

variable {Val Out : Type}

theorem runReads_eq (effects : String → Bool) (w : World Val Out) (ops : List ReadOp) (v : Val)
    (h : ∀ op ∈ ops, effects op.name = false) :
    runReads effects w v ops = (ops.map (fun op => w.result op v), v) := by
  induction ops with
  | nil => rfl
  | cons op ops ih =>
    simp only [runReads, read, h op (List.mem_cons_self ..), Bool.false_eq_true, if_false,
      ih (fun o ho => h o (List.mem_cons_of_mem _ ho)), List.map_cons]

end Dhcp.ReadOnly
