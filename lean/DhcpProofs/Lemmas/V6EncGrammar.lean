import DhcpProofs.Lemmas.V6LeafIff
import DhcpProofs.Lemmas.V4RoundTrip
/-
  The encoder's output is derivable in the RFC grammar: `WFMsg m → PMsg' (encMsg m) m`,
  by structural recursion on the value, with no DHCPv6 decoder, Lexer or fuel in sight
  (an embedded DHCPv4 message, option 87, goes through the DHCPv4 round trip
  `V4.enc4_dec4` and `V4.dec4_sound`).  The round trip (`dec6_encMsg`,
  `parseOption_encOpt`) is then the completeness half of `dec6_iff_rfc`.  The last
  section bounds the nesting measure of any value by the length of its encoding
  (`fuelMsg_le`).
-/
namespace Dhcp.V6
open Dhcp.Spec

theorem nameField_iff_OK {b : Bytes} {l : Label.Labels} : NameField b l ↔ LabelsOK l ∧ l.toBytes = b := by
  rw [← fromBytes_iff]
  constructor
  · intro h
    obtain ⟨h1, h2⟩ := Label.fromBytes_eq_ok h
    exact ⟨⟨b, h2, h1⟩, Label.fromBytes_toBytes h⟩
  · rintro ⟨⟨b', ho, hp⟩, rfl⟩
    rw [Label.toBytes_of_OK ho hp, Label.fromBytes_of_labelsFromBytes hp]
    cases l with
    | mk orig labs => simp only at ho; subst ho; rfl

theorem Tiles_of_flatMap {α : Type} {P : Nat → Bytes → α → Prop} (code : α → Nat) (val : α → Bytes) :
    ∀ xs : List α, (∀ x ∈ xs, code x < 65536 ∧ (val x).length < 65536 ∧ P (code x) (val x) x) →
      Tiles P (xs.flatMap (fun x => tlv (code x) (val x))) xs
  | [], _ => .nil
  | x :: xs, h =>
    have ⟨hc, hv, hp⟩ := h x (by simp)
    .cons hc hv hp (Tiles_of_flatMap code val xs (fun y hy => h y (by simp [hy])))

theorem PNTPSub_of_OK : (s : NTPSub) → NTPSubOK s → PNTPSub s.code (encNTPSub s) s
  | .srvAddr _, h => by obtain ⟨b, rfl, hb, hw⟩ := writeTo16_ip16 h; rw [encNTPSub, hw]; exact .srvAddr hb
  | .mcAddr _, h => by obtain ⟨b, rfl, hb, hw⟩ := writeTo16_ip16 h; rw [encNTPSub, hw]; exact .mcAddr hb
  | .srvFQDN _, h => .srvFQDN (nameField_iff_OK.mpr ⟨h.1, rfl⟩) h.2
  | .generic _ _, h => .other h.2.1 h.2.2.1 h.2.2.2

theorem NTPSub.code_lt {s : NTPSub} (h : NTPSubOK s) : s.code < 65536 := by
  cases s with
  | generic c d => exact h.1
  | _ => simp only [NTPSub.code]; omega

theorem PLeaf_enc (o : Opt6) (hs : isSimple o = true) (h : WFOpt o) : PLeaf o.code (encOpt o) o := by
  cases o with
  | clientID | serverID | iana | iata | iaaddr | relayMsg | iapd | iaprefix | fourRD => cases hs
  | oro cs =>
    have := PLeaf.oro ⟨h.1, rfl⟩
    rwa [keepFirst_of_nodup h.2] at this
  | elapsed =>
    obtain ⟨k, hk, rfl⟩ := h
    rw [encOpt, durTo16_tenMs k hk]
    exact .elapsed hk
  | status => exact .status h
  | userClass => exact .userClass ⟨h.2, rfl⟩ h.1
  | vendorClass => exact .vendorClass h.1 ⟨h.2.2, rfl⟩ h.2.1
  | vendorOpts _ os =>
    exact .vendorOpts h.1 (subOpts_of_tiles (Tiles_of_flatMap Prod.fst Prod.snd os
      (fun x hx => ⟨(h.2 x hx).1, (h.2 x hx).2, rfl⟩)))
  | interfaceID => exact .interfaceID
  | dns ips => exact .dns (addrs_of_ip16 ips h)
  | domainSearch => exact .domainSearch (nameField_iff_OK.mpr ⟨h, rfl⟩)
  | infoRefresh =>
    obtain ⟨s, h1, rfl⟩ := h
    rw [encOpt, encDur_seconds h1]
    exact .infoRefresh h1
  | remoteID => exact .remoteID h
  | fqdn => exact .fqdn (nameField_iff_OK.mpr ⟨h, rfl⟩)
  | ntp subs =>
    exact .ntp (subOpts_of_tiles (Tiles_of_flatMap NTPSub.code encNTPSub subs
      (fun s hs => ⟨NTPSub.code_lt (h s hs).1, (h s hs).2, PNTPSub_of_OK s (h s hs).1⟩)))
  | bootfileURL => exact .bootfileURL
  | bootfileParam ps =>
    rw [encOpt, filter_itemsOK ps h]
    exact .bootfileParam ⟨h, rfl⟩
  | archType => exact .archType ⟨h.2, rfl⟩ h.1
  | nii => exact .nii
  | clientLLA => exact .clientLLA h
  | dhcpv4Msg p =>
    obtain ⟨b, hb, hd⟩ := V4.enc4_dec4 p h.1
    rw [h.2] at hd
    rw [encOpt, enc4Bytes, hb]
    exact .dhcpv4Msg (V4.dec4_sound b p hd)
  | dhcp4o6Server ips => exact .dhcp4o6Server (addrs_of_ip16 ips h)
  | fourRDMapRule p4len _ p6len _ ea wkp =>
    obtain ⟨h4l, ⟨b4, rfl, hb4⟩, h6l, h6⟩ := h
    obtain ⟨b6, rfl, hb6, hw6⟩ := write16_ip16 h6
    have e4 : (UInt8.ofNat p4len).toNat = p4len := UInt8.toNat_ofNat_lt (by omega)
    have e6 : (UInt8.ofNat p6len).toNat = p6len := UInt8.toNat_ofNat_lt (by omega)
    have := PLeaf.fourRDMapRule (p4len := .ofNat p4len) (p6len := .ofNat p6len) (ea := ea)
      (fl := if wkp then 128 else 0) (by omega) (by omega) hb4 hb6
    rw [e4, e6] at this
    have ew : decide (128 ≤ (if wkp then (128 : UInt8) else 0).toNat) = wkp := by cases wkp <;> rfl
    rw [ew] at this
    simpa only [encOpt, Opt6.code, Option.bind_some, V4.to4, hb4, if_true, Option.getD_some, hw6,
      List.cons_append, List.nil_append] using this
  | fourRDNonMapRule hub tc pmtu =>
    have := PLeaf.fourRDNonMapRule (fl := (if hub then 128 else 0) + (if tc.isSome then 1 else 0))
      (tc := tc.getD 0) h
    cases hub <;> cases tc <;> simpa [encOpt, Opt6.code] using this
  | relayPort => exact .relayPort h
  | generic => exact .generic h.2

theorem encPfx_layout : (pfx : Option (Nat × IP)) → PfxOK pfx →
    ∃ (len : UInt8) (ip : Bytes), len.toNat ≤ 128 ∧ ip.length = 16 ∧ encPfx pfx = len :: ip ∧
      pfx = if len = 0 then none else some (len.toNat, some ip)
  | none, _ => ⟨0, zeros 16, by decide, by simp, rfl, rfl⟩
  | some (n, _), ⟨h1, h2, hip⟩ => by
    obtain ⟨b, rfl, hb, hw⟩ := write16_ip16 hip
    have hn : (UInt8.ofNat n).toNat = n := UInt8.toNat_ofNat_lt (by omega)
    have h0 : UInt8.ofNat n ≠ 0 := fun e => by rw [e] at hn; simp at hn; omega
    exact ⟨.ofNat n, b, by omega, hb, by rw [encPfx, hw], by rw [if_neg h0, hn]⟩

mutual
theorem POpt'_enc (o : Opt6) (h : WFOpt o) : POpt' o.code (encOpt o) o := by
  cases o with
  | clientID => exact .clientID ((PDUID_iff_OK _ _).mpr ⟨h, rfl⟩)
  | serverID => exact .serverID ((PDUID_iff_OK _ _).mpr ⟨h, rfl⟩)
  | iana i _ _ os =>
    obtain ⟨hi, ⟨s1, h1, rfl⟩, ⟨s2, h2, rfl⟩, hos⟩ := h
    simp only [encOpt, copyInto_of_length_eq hi, encDur_seconds h1, encDur_seconds h2, List.append_assoc]
    exact .iana hi h1 h2 (POpts'_enc os hos)
  | iapd i _ _ os =>
    obtain ⟨hi, ⟨s1, h1, rfl⟩, ⟨s2, h2, rfl⟩, hos⟩ := h
    simp only [encOpt, copyInto_of_length_eq hi, encDur_seconds h1, encDur_seconds h2, List.append_assoc]
    exact .iapd hi h1 h2 (POpts'_enc os hos)
  | iata i os =>
    simp only [encOpt, copyInto_of_length_eq h.1]
    exact .iata h.1 (POpts'_enc os h.2)
  | iaaddr _ _ _ os =>
    obtain ⟨hip, ⟨s1, h1, rfl⟩, ⟨s2, h2, rfl⟩, hos⟩ := h
    obtain ⟨b, rfl, hb, hw⟩ := write16_ip16 hip
    simp only [encOpt, hw, encDur_seconds h1, encDur_seconds h2, List.append_assoc]
    exact .iaaddr hb h1 h2 (POpts'_enc os hos)
  | iaprefix _ _ pfx os =>
    obtain ⟨⟨s1, h1, rfl⟩, ⟨s2, h2, rfl⟩, hp, hos⟩ := h
    obtain ⟨len, ip, hl, hip, he, rfl⟩ := encPfx_layout pfx hp
    simp only [encOpt, he, encDur_seconds h1, encDur_seconds h2, List.append_assoc, List.cons_append]
    exact .iaprefix h1 h2 hl hip (POpts'_enc os hos)
  | relayMsg m => exact .relayMsg (PMsg'_enc m h)
  | fourRD os => exact .fourRD (POpts'_enc os h)
  | _ => exact .leaf (PLeaf_enc _ rfl h)
theorem POpts'_enc (os : List Opt6) (h : WFOpts os) : POpts' (encOpts os) os := by
  cases os with
  | nil => exact .nil
  | cons o os =>
    rw [encOpts, tlv_append]
    exact .cons (code_lt o h.1) h.2.1 (POpt'_enc o h.1) (POpts'_enc os h.2.2)
theorem PMsg'_enc (m : Msg6) (h : WFMsg m) : PMsg' (encMsg m) m := by
  cases m with
  | msg _ _ os =>
    simp only [encMsg, copyInto_of_length_eq h.2.1]
    exact .msg h.1 h.2.1 (POpts'_enc os h.2.2)
  | relay _ _ _ _ os =>
    obtain ⟨ht, hl, hp, hos⟩ := h
    obtain ⟨bl, rfl, hbl, hwl⟩ := write16_ip16 hl
    obtain ⟨bp, rfl, hbp, hwp⟩ := write16_ip16 hp
    simp only [encMsg, hwl, hwp, List.append_assoc]
    exact .relay ht hbl hbp (POpts'_enc os hos)
end

theorem dec6_encMsg (m : Msg6) (h : WFMsg m) : dec6 (encMsg m) = .ok m :=
  (dec6_iff_rfc _ _).mpr (PMsg'_enc m h)

theorem parseOption_encOpt (o : Opt6) (h : WFOpt o) : parseOption o.code (encOpt o) = .ok o :=
  (parseOption_iff_rfc _ _ _).mpr (POpt'_enc o h)

theorem simpleRT_all : SimpleRT :=
  fun o hs hw => decSimple_complete _ _ _ (PLeaf_enc o hs hw)

/-- `hS` is not used: it holds (`simpleRT_all`) -/
theorem rtOptsAll (hS : SimpleRT) : (os : List Opt6) → WFOpts os → (f : Nat) → fuelOpts os ≤ f →
    (x : Opt6) → x ∈ os → parseOpt f x.code (encOpt x) = .ok x :=
  fun _ hw f hf x hx =>
    ((decF_iff f).1 _ _ _).mpr ⟨POpt_of_rfc (POpt'_enc x (WFOpts_mem hw x hx).1),
      Nat.le_trans (fuelOpts_mem x hx) hf⟩

mutual
theorem fuelOpt_le (o : Opt6) : fuelOpt o ≤ (encOpt o).length + 2 := by
  cases o with
  | iana _ _ _ os | iata _ os | iaaddr _ _ _ os | iapd _ _ _ os | iaprefix _ _ _ os | fourRD os =>
    have := fuelOpts_le os
    simp only [fuelOpt, encOpt, List.length_append]; omega
  | relayMsg m =>
    have := fuelMsg_le m
    simp only [fuelOpt, encOpt]; omega
  | _ => exact Nat.le_add_left 1 _
theorem fuelOpts_le : (os : List Opt6) → fuelOpts os ≤ (encOpts os).length := fun os => by
  cases os with
  | nil => exact Nat.le_refl _
  | cons o os =>
    have h1 := fuelOpt_le o
    have h2 := fuelOpts_le os
    simp only [fuelOpts, encOpts, List.length_append, tlv_length]; omega
theorem fuelMsg_le (m : Msg6) : fuelMsg m ≤ (encMsg m).length := by
  cases m with
  | msg t xid os =>
    have := fuelOpts_le os
    simp only [fuelMsg, encMsg, List.length_cons, List.length_append, copyInto_length]; omega
  | relay t h l p os =>
    have := fuelOpts_le os
    simp only [fuelMsg, encMsg, List.length_cons, List.length_append]; omega
end

end Dhcp.V6
