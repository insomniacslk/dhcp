import Dhcp.Spec.Wire6
import DhcpProofs.Lemmas.Basic
/- The DHCPv6 option loop `Options.FromBytesWithParser` accepts exactly the tilings of its buffer; tilings
   concatenate and split at option boundaries (`Tiles_append`, `Tiles_cons_iff`, `Tiles_split`). -/
namespace Dhcp.V6
open Dhcp.Spec

theorem tlv_length (code : Nat) (v : Bytes) : (tlv code v).length = v.length + 4 := by
  simp [tlv]; omega

theorem tlvLoop_step {α : Type} (parse : Nat → Bytes → Res α) (fuel code : Nat) (v rest : Bytes)
    (acc : List α) (hc : code < 65536) (hv : v.length < 65536) :
    tlvLoop parse (fuel + 1) ⟨tlv code v ++ rest, false⟩ acc =
      match parse code v with
      | .ok o => tlvLoop parse fuel ⟨rest, false⟩ (acc ++ [o])
      | .err => .err
      | .panic => .panic := by
  have hhas : Lexer.has ⟨tlv code v ++ rest, false⟩ 4 = true := by
    simp [Lexer.has, tlv_length]; omega
  rw [tlvLoop, if_pos hhas]
  simp only [tlv, List.append_assoc, Lexer.read16_append code hc, Lexer.read16_append v.length hv,
    Lexer.consume_append v rest false rfl, Option.getD_some]
  cases parse code v <;> rfl

theorem tlvLoop_nil {α : Type} (parse : Nat → Bytes → Res α) (fuel : Nat) (acc : List α) :
    tlvLoop parse (fuel + 1) ⟨[], false⟩ acc = .ok acc := by
  simp [tlvLoop, Lexer.has, Lexer.finError]

theorem tlvLoop_err_sticky {α : Type} (parse : Nat → Bytes → Res α) :
    ∀ (fuel : Nat) (l : Lexer) (acc : List α), l.err = true → ∀ r, tlvLoop parse fuel l acc ≠ .ok r := by
  intro fuel
  induction fuel with
  | zero => intro l acc _ r; simp [tlvLoop]
  | succ fuel ih =>
    intro l acc h r
    unfold tlvLoop
    by_cases hh : l.has 4 = true
    · simp only [hh, if_true]
      have h1 := Lexer.read16_err l h
      have h2 := Lexer.read16_err l.read16.2 h1
      have h3 := Lexer.consume_err l.read16.2.read16.2 l.read16.2.read16.1 h2
      cases hp : parse l.read16.1 ((l.read16.2.read16.2.consume l.read16.2.read16.1).1.getD []) with
      | ok o => simp only; exact ih _ _ h3 r
      | err => simp
      | panic => simp
    · simp only [hh, Lexer.finError, h, Bool.true_or, if_true]
      simp

theorem tlvLoop_inv {α : Type} (parse : Nat → Bytes → Res α) (fuel : Nat) (d : Bytes) (acc r : List α)
    (h : tlvLoop parse (fuel + 1) ⟨d, false⟩ acc = .ok r) :
    (d = [] ∧ r = acc) ∨
    ∃ code v rest o, d = tlv code v ++ rest ∧ code < 65536 ∧ v.length < 65536 ∧ parse code v = .ok o ∧
      tlvLoop parse fuel ⟨rest, false⟩ (acc ++ [o]) = .ok r := by
  unfold tlvLoop at h
  split at h
  · right
    dsimp only at h
    split at h
    · rename_i o hp
      -- the loop went on and succeeded, so the value was read without error
      have he := Bool.eq_false_iff.mpr fun e => tlvLoop_err_sticky parse fuel _ _ e r h
      obtain ⟨he2, hn⟩ := Lexer.consume_ok he
      obtain ⟨he1, hl, hd1⟩ := Lexer.read16_spec he2
      obtain ⟨_, hc, (hd0 : d = _)⟩ := Lexer.read16_spec he1
      simp only [Lexer.consume_of_le hn, Option.getD_some, he2] at hp h
      refine ⟨_, _, _, o, hd0.trans ?_, hc, ?_, hp, h⟩
      · rw [hd1]
        simp only [tlv, List.length_take_of_le hn, List.append_assoc, List.take_append_drop]
      · rw [List.length_take_of_le hn]; exact hl
    · cases h
    · cases h
  · left
    split at h
    · cases h
    · rename_i hf
      simp only [Lexer.finError, Bool.false_or, decide_eq_true_eq, Nat.not_lt, Nat.le_zero_eq] at hf
      exact ⟨List.eq_nil_of_length_eq_zero hf, (Res.ok.inj h).symm⟩

theorem _root_.Dhcp.Spec.Tiles.mono {α : Type} {P Q : Nat → Bytes → α → Prop} (h : ∀ c v o, P c v o → Q c v o) {d : Bytes}
    {os : List α} (ht : Tiles P d os) : Tiles Q d os := by
  induction ht with
  | nil => exact .nil
  | cons hc hv hp _ ih => exact .cons hc hv (h _ _ _ hp) ih

theorem _root_.Dhcp.Spec.Tiles.length_le {α : Type} {P : Nat → Bytes → α → Prop} {d : Bytes} {os : List α}
    (ht : Tiles P d os) : 4 * os.length ≤ d.length := by
  induction ht with
  | nil => simp
  | cons _ _ _ _ ih => simp only [List.length_append, tlv_length, List.length_cons]; omega

theorem Tiles_and_iff {α : Type} {P : Nat → Bytes → α → Prop} {Q : α → Prop} {d : Bytes} {os : List α} :
    Tiles (fun c v o => P c v o ∧ Q o) d os ↔ Tiles P d os ∧ ∀ o ∈ os, Q o := by
  constructor
  · intro h
    induction h with
    | nil => exact ⟨.nil, by simp⟩
    | cons hc hv hp _ ih => exact ⟨.cons hc hv hp.1 ih.1, by simpa using ⟨hp.2, ih.2⟩⟩
  · rintro ⟨h, hq⟩
    induction h with
    | nil => exact .nil
    | cons hc hv hp _ ih =>
      exact .cons hc hv ⟨hp, hq _ (by simp)⟩ (ih (fun o ho => hq o (by simp [ho])))

theorem Tiles_append {α : Type} {P : Nat → Bytes → α → Prop} {d1 d2 : Bytes} {os1 os2 : List α}
    (h1 : Tiles P d1 os1) (h2 : Tiles P d2 os2) : Tiles P (d1 ++ d2) (os1 ++ os2) := by
  induction h1 with
  | nil => exact h2
  | cons hc hv hp _ ih =>
    rw [List.append_assoc]
    exact .cons hc hv hp ih

theorem tlv_inj {c c' : Nat} {v v' r r' : Bytes} (hc : c < 65536) (hc' : c' < 65536)
    (hv : v.length < 65536) (hv' : v'.length < 65536) (h : tlv c v ++ r = tlv c' v' ++ r') :
    c = c' ∧ v = v' ∧ r = r' := by
  unfold tlv at h
  simp only [List.append_assoc] at h
  obtain ⟨e1, h⟩ := List.append_inj h (by simp)
  obtain ⟨e2, h⟩ := List.append_inj h (by simp)
  have ec : c = c' := by rw [← beNat_be16 hc, ← beNat_be16 hc', e1]
  have el : v.length = v'.length := by rw [← beNat_be16 hv, ← beNat_be16 hv', e2]
  obtain ⟨e3, e4⟩ := List.append_inj h el
  exact ⟨ec, e3, e4⟩

theorem Tiles_inv {α : Type} {P : Nat → Bytes → α → Prop} {d : Bytes} {os : List α}
    (h : Tiles P d os) :
    (d = [] ∧ os = []) ∨ ∃ c v rest o os', d = tlv c v ++ rest ∧ os = o :: os' ∧ c < 65536 ∧
      v.length < 65536 ∧ P c v o ∧ Tiles P rest os' := by
  cases h with
  | nil => exact Or.inl ⟨rfl, rfl⟩
  | cons hc hv hp ht => exact Or.inr ⟨_, _, _, _, _, rfl, rfl, hc, hv, hp, ht⟩

theorem tlv_append_ne_nil (c : Nat) (v r : Bytes) : tlv c v ++ r ≠ [] := by
  intro h
  have := congrArg List.length h
  simp [tlv_length] at this

theorem Tiles_cons_iff {α : Type} {P : Nat → Bytes → α → Prop} {c : Nat} {v rest : Bytes} {o : α}
    {os : List α} (hc : c < 65536) (hv : v.length < 65536) :
    Tiles P (tlv c v ++ rest) (o :: os) ↔ P c v o ∧ Tiles P rest os := by
  constructor
  · intro h
    rcases Tiles_inv h with ⟨h0, _⟩ | ⟨c', v', rest', o', os', hd, hos, hc', hv', hp, ht⟩
    · exact absurd h0 (tlv_append_ne_nil _ _ _)
    · obtain ⟨rfl, rfl, rfl⟩ := tlv_inj hc hc' hv hv' hd
      simp only [List.cons.injEq] at hos
      obtain ⟨rfl, rfl⟩ := hos
      exact ⟨hp, ht⟩
  · intro h; exact .cons hc hv h.1 h.2

theorem Tiles_split {α : Type} {P : Nat → Bytes → α → Prop}
    (hfun : ∀ c v o o', P c v o → P c v o' → o = o') {d1 d2 : Bytes} {os1 os : List α}
    (h1 : Tiles P d1 os1) : Tiles P (d1 ++ d2) os → ∃ os2, os = os1 ++ os2 ∧ Tiles P d2 os2 := by
  induction h1 generalizing os with
  | nil => intro h; exact ⟨os, rfl, h⟩
  | @cons c v rest o os1 hc hv hp _ ih =>
    intro h
    rw [List.append_assoc] at h
    rcases Tiles_inv h with ⟨h0, _⟩ | ⟨c', v', rest', o', os', hd, hos, hc', hv', hp', ht⟩
    · exact absurd h0 (tlv_append_ne_nil _ _ _)
    · obtain ⟨rfl, rfl, rfl⟩ := tlv_inj hc hc' hv hv' hd
      obtain ⟨os2, rfl, h2⟩ := ih ht
      exact ⟨os2, by rw [hos, hfun _ _ _ _ hp hp']; rfl, h2⟩

theorem tlvLoop_sound {α : Type} (parse : Nat → Bytes → Res α) :
    ∀ (fuel : Nat) (d : Bytes) (acc r : List α), tlvLoop parse fuel ⟨d, false⟩ acc = .ok r →
      ∃ os, r = acc ++ os ∧ Tiles (fun c v o => parse c v = .ok o) d os := by
  intro fuel
  induction fuel with
  | zero => intro d acc r h; simp [tlvLoop] at h
  | succ fuel ih =>
    intro d acc r h
    rcases tlvLoop_inv parse fuel d acc r h with ⟨rfl, rfl⟩ | ⟨code, v, rest, o, rfl, hc, hv, hp, hrec⟩
    · exact ⟨[], by simp, Tiles.nil⟩
    · obtain ⟨os, rfl, ht⟩ := ih rest (acc ++ [o]) r hrec
      exact ⟨o :: os, by simp, Tiles.cons hc hv hp ht⟩

theorem tlvLoop_complete {α : Type} (parse : Nat → Bytes → Res α) {d : Bytes} {os : List α}
    (ht : Tiles (fun c v o => parse c v = .ok o) d os) :
    ∀ fuel acc, d.length < fuel → tlvLoop parse fuel ⟨d, false⟩ acc = .ok (acc ++ os) := by
  induction ht with
  | nil =>
    intro fuel acc hf
    cases fuel with
    | zero => omega
    | succ f => simp [tlvLoop_nil]
  | @cons code v rest o os hc hv hp _ ih =>
    intro fuel acc hf
    cases fuel with
    | zero => omega
    | succ f =>
      rw [tlvLoop_step parse f code v rest acc hc hv, hp]
      simp only
      rw [ih f (acc ++ [o]) (by simp only [List.length_append, tlv_length] at hf; omega)]
      simp

theorem optionsFromBytes_iff {α : Type} (parse : Nat → Bytes → Res α) (d : Bytes) (os : List α) :
    optionsFromBytes parse d = .ok os ↔ Tiles (fun c v o => parse c v = .ok o) d os := by
  unfold optionsFromBytes
  by_cases h0 : d.length = 0
  · obtain rfl := List.eq_nil_of_length_eq_zero h0
    simp only [List.length_nil, if_true, Res.ok.injEq]
    constructor
    · rintro rfl; exact .nil
    · intro h
      have := h.length_le
      exact (List.eq_nil_of_length_eq_zero (by simp at this; omega)).symm
  · simp only [h0, if_false, Lexer.new]
    constructor
    · intro h
      obtain ⟨os', rfl, ht⟩ := tlvLoop_sound parse _ d [] os h
      simpa using ht
    · intro h
      have := tlvLoop_complete parse h (d.length + 1) [] (Nat.lt_succ_self _)
      simpa using this

theorem optionsFromBytes_sound {α : Type} (parse : Nat → Bytes → Res α) (P : Nat → Bytes → α → Prop)
    (hP : ∀ c v o, parse c v = .ok o → P c v o) (d : Bytes) (os : List α)
    (h : optionsFromBytes parse d = .ok os) : Tiles P d os :=
  ((optionsFromBytes_iff parse d os).mp h).mono hP

theorem optionsFromBytes_complete {α : Type} (parse : Nat → Bytes → Res α) (P : Nat → Bytes → α → Prop)
    (hP : ∀ c v o, P c v o → parse c v = .ok o) (d : Bytes) (os : List α) (h : Tiles P d os) :
    optionsFromBytes parse d = .ok os :=
  (optionsFromBytes_iff parse d os).mpr (h.mono hP)

end Dhcp.V6
