import DhcpProofs.Lemmas.Basic
import DhcpProofs.Lemmas.LabelSound
import DhcpProofs.Lemmas.LabelEnc
/-
  Facts about the label model in the form other codecs' proofs use them
  (DHCPv6 domain search list, FQDN, NTP server FQDN; DHCPv4 domain search):
  `fromBytes : Bytes → Res Labels`, `Labels.toBytes : Labels → Bytes`,
  `labelsToBytes`.  The C19 property theorems restate the main ones.
-/
namespace Dhcp.Label
open Dhcp.Spec.Name

theorem labelsFromBytes_ne_panic (b : Bytes) : labelsFromBytes b ≠ .panic := by
  intro h
  obtain ⟨f, hf⟩ := runs_of_labelsFromBytes b
  rw [h] at hf
  exact loop_ne_panic b f init hf

theorem labelsFromBytes_nil : labelsFromBytes [] = .ok [] := by decide

theorem labelsFromBytes_eq_ok_iff {b : Bytes} {ns : List Bytes} :
    labelsFromBytes b = .ok ns ↔ DecodesTo b ns := by
  constructor
  · intro h
    obtain ⟨ns', hns, hnames⟩ := names_sound (h ▸ runs_of_labelsFromBytes b)
    rw [List.nil_append] at hns
    exact hns ▸ hnames
  · intro h
    simpa using labelsFromBytes_eq_of_runs (names_complete h 0 0 [] rfl)

theorem labelsFromBytes_eq_err_iff {b : Bytes} : labelsFromBytes b = .err ↔ ¬ ∃ ns, DecodesTo b ns := by
  refine ⟨fun h ⟨ns, hns⟩ => ?_, fun h => ?_⟩
  · cases h.symm.trans (labelsFromBytes_eq_ok_iff.mpr hns)
  · exact (Res.of_ne_panic (labelsFromBytes_ne_panic b)).resolve_right fun ⟨ns, hr⟩ =>
      h ⟨ns, labelsFromBytes_eq_ok_iff.mp hr⟩

theorem labelsFromBytes_labelsToBytes (ns : List Bytes) (h : ValidNames ns) :
    labelsFromBytes (labelsToBytes ns) = .ok ns :=
  labelsFromBytes_eq_ok_iff.mpr (names_encode _ ns h)

theorem Labels.fromBytes_eq (d : Option Bytes) :
    Labels.fromBytes d = (labelsFromBytes (goBytes d)).map fun ns => { original := d, labels := ns } := by
  unfold Labels.fromBytes
  cases labelsFromBytes (goBytes d) <;> rfl

theorem Labels.fromBytes_ne_panic (d : Option Bytes) : Labels.fromBytes d ≠ .panic :=
  Labels.fromBytes_eq d ▸ Res.map_ne_panic (labelsFromBytes_ne_panic _)

theorem fromBytes_ne_panic (b : Bytes) : fromBytes b ≠ .panic := Labels.fromBytes_ne_panic _

/-- `fromBytes_ne_panic` under the name of its role: the fact C03 needs about labels (the DHCPv6
decoders call `Label.fromBytes` for options 24, 39 and the NTP FQDN sub-option, DHCPv4 for option 119;
the proofs cite `fromBytes_ne_panic` itself); running out of loop fuel is mapped to `panic` too, so
this also covers termination of the label loop -/
theorem c03_label_dependency (b : Bytes) : fromBytes b ≠ .panic := fromBytes_ne_panic b

theorem Labels.fromBytes_eq_ok {d : Option Bytes} {l : Labels} (h : Labels.fromBytes d = .ok l) :
    labelsFromBytes (goBytes d) = .ok l.labels ∧ l.original = d := by
  obtain ⟨ns, h1, rfl⟩ := Res.map_eq_ok (Labels.fromBytes_eq d ▸ h)
  exact ⟨h1, rfl⟩

theorem fromBytes_eq_ok {b : Bytes} {l : Labels} (h : fromBytes b = .ok l) :
    labelsFromBytes b = .ok l.labels ∧ l.original = some b :=
  Labels.fromBytes_eq_ok h

theorem fromBytes_of_labelsFromBytes {b : Bytes} {ns : List Bytes} (h : labelsFromBytes b = .ok ns) :
    fromBytes b = .ok { original := some b, labels := ns } := by
  simp [fromBytes, Labels.fromBytes, goBytes, h]

theorem toBytesR_eq (l : Labels) : l.toBytesR = .ok l.toBytes := by
  unfold Labels.toBytesR Labels.toBytes
  cases h : labelsFromBytes (goBytes l.original) with
  | ok labs => simp only; split <;> rfl
  | err => rfl
  | panic => exact absurd h (labelsFromBytes_ne_panic _)

theorem toBytes_original_none (l : Labels) (h : l.original = none) : l.toBytes = labelsToBytes l.labels := by
  simp [Labels.toBytes, h, goBytes, labelsFromBytes_nil]

theorem toBytes_of_OK {l : Labels} {b : Bytes} (ho : l.original = some b)
    (hp : labelsFromBytes b = .ok l.labels) : l.toBytes = b := by
  simp [Labels.toBytes, ho, goBytes, hp]

theorem toBytes_of_edited {b : Bytes} {ns0 ns : List Bytes} (hp : labelsFromBytes b = .ok ns0)
    (hne : ns0 ≠ ns) : (Labels.mk (some b) ns).toBytes = labelsToBytes ns := by
  simp [Labels.toBytes, goBytes, hp, hne]

theorem toBytes_new (ns : List Bytes) : ({ Labels.new with labels := ns }).toBytes = labelsToBytes ns :=
  toBytes_original_none _ rfl

theorem Labels.toBytes_of_fromBytes {d : Option Bytes} {l : Labels} (h : Labels.fromBytes d = .ok l) :
    l.toBytes = goBytes d := by
  obtain ⟨h1, h2⟩ := Labels.fromBytes_eq_ok h
  cases d with
  | none =>
    rw [toBytes_original_none l h2]
    rw [show goBytes none = [] from rfl, labelsFromBytes_nil] at h1
    rw [← Res.ok.inj h1]; rfl
  | some b => exact toBytes_of_OK h2 h1

theorem fromBytes_toBytes {b : Bytes} {l : Labels} (h : fromBytes b = .ok l) : l.toBytes = b :=
  Labels.toBytes_of_fromBytes h

theorem Labels.toBytes_of_labels_ne {d : Option Bytes} {l : Labels} (h : Labels.fromBytes d = .ok l)
    {ns' : List Bytes} (hne : ns' ≠ l.labels) : ({ l with labels := ns' }).toBytes = labelsToBytes ns' := by
  obtain ⟨h1, h2⟩ := Labels.fromBytes_eq_ok h
  have : ¬ l.labels = ns' := fun e => hne e.symm
  simp [Labels.toBytes, h2, h1, this]

theorem fromBytes_labelsToBytes (ns : List Bytes) (h : ValidNames ns) :
    fromBytes (labelsToBytes ns) = .ok { original := some (labelsToBytes ns), labels := ns } :=
  fromBytes_of_labelsFromBytes (labelsFromBytes_labelsToBytes ns h)

end Dhcp.Label
