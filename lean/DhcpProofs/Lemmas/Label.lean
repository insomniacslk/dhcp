import Dhcp.Label
import DhcpProofs.Lemmas.Basic
/-
  Lemmas about the model of `labelsFromBytes` (Dhcp/Label.lean): one loop
  iteration as a relation on the unread suffix (`Iter`: no index expression,
  hence no panic outcome; every iteration is in it, `step_iter`, and apart from
  errors it determines the iteration, `step_of_iter`), absence of panics,
  termination (fuel sufficiency and irrelevance), and the `Runs` vocabulary used
  by the soundness/completeness proofs.
-/
namespace Dhcp.Label

/-! the tests `length&0xc0 == 0xc0`, `length&0xc0 != 0` and the mask `&^0xc0` of label.go, as comparisons -/

theorem and_c0_eq (n : Nat) (h : n < 256) : (n &&& 0xc0 = 0xc0) ↔ 192 ≤ n := by
  rw [show 0xc0 = (2 ^ 2 - 1) * 2 ^ 6 from rfl, and_mask]; omega
theorem and_c0_ne (n : Nat) (h : n < 256) : (n &&& 0xc0 ≠ 0) ↔ 64 ≤ n := by
  rw [show 0xc0 = (2 ^ 2 - 1) * 2 ^ 6 from rfl, and_mask]; omega
theorem ptr_mask (b : UInt8) (h : 192 ≤ b.toNat) : (b &&& 0x3f).toNat = b.toNat - 192 := by
  have := b.toNat_lt
  rw [UInt8.toNat_and, show (0x3f : UInt8).toNat = 2 ^ 6 - 1 from rfl, Nat.and_two_pow_sub_one_eq_mod]
  omega

theorem drop_cons_getElem? {buf : Bytes} {p : Nat} {b : UInt8} {t : Bytes}
    (h : buf.drop p = b :: t) : buf[p]? = some b := by
  have := List.getElem?_drop (xs := buf) (i := p) (j := 0)
  rw [h] at this; simpa using this.symm

theorem drop_cons_succ {buf : Bytes} {p : Nat} {b : UInt8} {t : Bytes}
    (h : buf.drop p = b :: t) : buf.drop (p + 1) = t := by
  have := List.drop_drop (i := 1) (j := p) (l := buf)
  rw [h] at this; simpa using this.symm

theorem drop_cons_length {buf : Bytes} {p : Nat} {b : UInt8} {t : Bytes}
    (h : buf.drop p = b :: t) : buf.length = p + 1 + t.length := by
  have := congrArg List.length h
  simp only [List.length_drop, List.length_cons] at this
  omega

theorem drop_add_of_append {buf : Bytes} {p : Nat} {l t : Bytes}
    (h : buf.drop p = l ++ t) : buf.drop (p + l.length) = t := by
  have := List.drop_drop (i := l.length) (j := p) (l := buf)
  rw [h] at this; simpa using this.symm

/-- `label.WriteByte('.')` (unless empty) `; label.Write(chunk)` -/
def appendLabel (label chunk : Bytes) : Bytes :=
  if label ≠ [] then label ++ [46] ++ chunk else label ++ chunk

/-- What an iteration does, by the form of the unread suffix: the loop ends with the names read (`ok`:
nothing left, outside a pointer), continues in one of four ways (`ptr`: only outside a pointer; `label`: a
complete label of 1..63 octets that keeps the name within `maxNameLength`), or ends with an error. -/
inductive Iter (buf : Bytes) (s : St) : Step → Prop
  | ok : buf.drop s.pos = [] → s.hp = false →
      Iter buf s (.done (.ok (if s.label ≠ [] then s.labels ++ [s.label] else s.labels)))
  | zeroPtr {t : Bytes} : buf.drop s.pos = 0 :: t → s.hp = true →
      Iter buf s (.next { s with pos := s.oldPos, hp := false, label := [], labels := s.labels ++ [s.label] })
  | zero {t : Bytes} : buf.drop s.pos = 0 :: t → s.hp = false →
      Iter buf s (.next { s with pos := s.pos + 1, label := [], labels := s.labels ++ [s.label] })
  | ptr {b b1 : UInt8} {t : Bytes} : buf.drop s.pos = b :: b1 :: t → 192 ≤ b.toNat → s.hp = false →
      Iter buf s (.next { s with pos := (b.toNat - 192) * 256 + b1.toNat, oldPos := s.pos + 2, hp := true })
  | label {l t : Bytes} : buf.drop s.pos = UInt8.ofNat l.length :: (l ++ t) →
      1 ≤ l.length → l.length ≤ 63 → (appendLabel s.label l).length ≤ maxNameLength →
      Iter buf s (.next { s with pos := s.pos + 1 + l.length, label := appendLabel s.label l })
  | err : Iter buf s (.done .err)

/-- every iteration is one of these -/
theorem step_iter (buf : Bytes) (s : St) : Iter buf s (step buf s) := by
  unfold step
  cases h : buf.drop s.pos with
  | nil =>
    simp only [ge_iff_le, List.drop_eq_nil_iff.mp h, if_true]
    split
    · exact .err
    · rename_i hhp
      rw [← apply_ite Step.done, ← apply_ite Res.ok]
      exact .ok h (by simpa using hhp)
  | cons b t =>
    have hlen := drop_cons_length h
    have hb := drop_cons_getElem? h
    have ht := drop_cons_succ h
    -- the tests on the octet become comparisons; the tests on positions remain, case by case
    simp only [show ¬ s.pos ≥ buf.length by omega, if_false, hb, and_c0_eq b.toNat b.toNat_lt,
      and_c0_ne b.toNat b.toNat_lt]
    by_cases hz : b.toNat = 0
    · simp only [hz, if_true]
      have hb0 : b = 0 := UInt8.toNat_inj.mp hz
      subst hb0
      split
      · rename_i hhp; exact .zeroPtr h hhp
      · rename_i hhp; exact .zero h (by simpa using hhp)
    · simp only [hz, if_false]
      by_cases hp : 192 ≤ b.toNat
      · simp only [hp, if_true]
        by_cases hhp : s.hp = true
        · simp only [hhp, if_true]; exact .err
        · simp only [hhp]
          cases t with
          | nil => simp only [show s.pos + 1 + 1 > buf.length by simp at hlen; omega, if_true]; exact .err
          | cons b1 t' =>
            simp only [show ¬ s.pos + 1 + 1 > buf.length by simp at hlen; omega, if_false, Nat.add_sub_cancel, hb,
              drop_cons_getElem? ht, ptr_mask b hp]
            exact .ptr h hp (by simpa using hhp)
      · simp only [hp, if_false]
        by_cases hr : 64 ≤ b.toNat
        · simp only [hr, if_true]; exact .err
        · simp only [hr, if_false]
          by_cases ho : t.length < b.toNat
          · simp only [show s.pos + 1 + b.toNat > buf.length by omega, if_true]; exact .err
          · have hs : slice? buf (s.pos + 1) (s.pos + 1 + b.toNat) = some (t.take b.toNat) := by
              have : s.pos + 1 ≤ s.pos + 1 + b.toNat ∧ s.pos + 1 + b.toNat ≤ buf.length := by omega
              simp only [slice?, this, and_self, if_true, ht, Nat.add_sub_cancel_left]
            simp only [show ¬ s.pos + 1 + b.toNat > buf.length by omega, if_false, hs]
            show Iter buf s (if (appendLabel s.label (t.take b.toNat)).length > maxNameLength then _ else _)
            split
            · exact .err
            · rename_i hmax
              have hl : (t.take b.toNat).length = b.toNat := by simp; omega
              have hbl : b = UInt8.ofNat (t.take b.toNat).length := by rw [hl]; simp
              have := Iter.label (buf := buf) (s := s) (l := t.take b.toNat) (t := t.drop b.toNat)
                (by rw [h, List.take_append_drop, ← hbl]) (by omega) (by omega) (by omega)
              rwa [hl] at this

/-- and, errors apart, the iteration is determined by the suffix -/
theorem step_of_iter {buf : Bytes} {s : St} {r : Step} (h : Iter buf s r) (hr : r ≠ .done .err) :
    step buf s = r := by
  unfold step
  cases h with
  | ok hd hhp =>
    simp only [ge_iff_le, List.drop_eq_nil_iff.mp hd, if_true, hhp, apply_ite Step.done, apply_ite Res.ok]
    rfl
  | zeroPtr hd hhp =>
    have := drop_cons_length hd
    simp [show ¬ s.pos ≥ buf.length by omega, drop_cons_getElem? hd, hhp]
  | zero hd hhp =>
    have := drop_cons_length hd
    simp [show ¬ s.pos ≥ buf.length by omega, drop_cons_getElem? hd, hhp]
  | @ptr b b1 t hd hb hhp =>
    have hlen := drop_cons_length hd
    simp only [List.length_cons] at hlen
    have : ¬ b.toNat = 0 := by omega
    simp [show ¬ s.pos ≥ buf.length by omega, drop_cons_getElem? hd, drop_cons_getElem? (drop_cons_succ hd), hhp,
      (and_c0_eq b.toNat b.toNat_lt).mpr hb, this, show ¬ buf.length < s.pos + 1 + 1 by omega, ptr_mask b hb]
  | @label l t hd h1 h2 h3 =>
    have hlen := drop_cons_length hd
    simp only [List.length_append] at hlen
    have e : (UInt8.ofNat l.length).toNat = l.length := by rw [UInt8.toNat_ofNat']; omega
    have hs : slice? buf (s.pos + 1) (s.pos + 1 + l.length) = some l := by
      have : s.pos + 1 ≤ s.pos + 1 + l.length ∧ s.pos + 1 + l.length ≤ buf.length := by omega
      simp [slice?, this, drop_cons_succ hd]
    have : ¬ l.length = 0 := by omega
    have h192 : ¬ 192 ≤ l.length := by omega
    have h64 : ¬ 64 ≤ l.length := by omega
    simp only [show ¬ s.pos ≥ buf.length by omega, if_false, drop_cons_getElem? hd, e, and_c0_eq l.length (by omega),
      and_c0_ne l.length (by omega), h192, h64, this, show ¬ s.pos + 1 + l.length > buf.length by omega, hs]
    show (if (appendLabel s.label l).length > maxNameLength then _ else _) = _
    rw [if_neg (by omega)]
    rfl
  | err => exact absurd rfl hr

theorem step_ne_panic (buf : Bytes) (s : St) : step buf s ≠ .done .panic := fun h =>
  nomatch h ▸ step_iter buf s

theorem step_ok_iff {buf : Bytes} {s : St} {r : List Bytes} :
    step buf s = .done (.ok r) ↔
      buf.drop s.pos = [] ∧ s.hp = false ∧ r = if s.label ≠ [] then s.labels ++ [s.label] else s.labels := by
  refine ⟨fun h => ?_, fun ⟨hd, hhp, hr⟩ => hr ▸ step_of_iter (.ok hd hhp) nofun⟩
  cases h ▸ step_iter buf s with
  | ok hd hhp => exact ⟨hd, hhp, rfl⟩

theorem loop_succ (buf : Bytes) (f : Nat) (s : St) :
    loop buf (f + 1) s = match step buf s with
      | .done r => some r
      | .next s' => loop buf f s' := rfl

theorem loop_ne_panic (buf : Bytes) : ∀ (f : Nat) (s : St), loop buf f s ≠ some .panic := by
  intro f
  induction f with
  | zero => intro s; simp [loop]
  | succ f ih =>
    intro s
    rw [loop_succ]
    cases h : step buf s with
    | done r =>
      simp only
      intro e
      have : r = .panic := by injection e
      exact step_ne_panic buf s (this ▸ h)
    | next s' => exact ih s'

theorem loop_mono (buf : Bytes) : ∀ (f k : Nat) (s : St) (r : Res (List Bytes)),
    loop buf f s = some r → loop buf (f + k) s = some r := by
  intro f
  induction f with
  | zero => intro k s r h; simp [loop] at h
  | succ f ih =>
    intro k s r h
    rw [Nat.add_right_comm, loop_succ]
    rw [loop_succ] at h
    cases hs : step buf s with
    | done r' => rw [hs] at h; exact h
    | next s' => rw [hs] at h; exact ih k s' r h

/-- Iterations that certainly suffice from state `s`: every iteration outside a pointer moves `pos`
forward and is charged `len + 2`, which pays for the pointer excursion it may start (at most
`len - target + 1` iterations, then one to come back). -/
def measure (buf : Bytes) (s : St) : Nat :=
  if s.hp then (buf.length - s.oldPos) * (buf.length + 2) + 1 + (buf.length - s.pos) + 1
  else (buf.length - s.pos) * (buf.length + 2) + 1

theorem sub_mul_succ_le {n p q : Nat} (K : Nat) (h : q ≤ n) (hd : p < q) :
    (n - q) * K + K ≤ (n - p) * K := by
  have e : n - p = (n - q) + (q - p) := by omega
  have : 1 * K ≤ (q - p) * K := Nat.mul_le_mul_right K (by omega)
  rw [e, Nat.add_mul]; omega

theorem step_measure (buf : Bytes) (s s' : St) (h : step buf s = .next s') :
    measure buf s' + 1 ≤ measure buf s := by
  cases h ▸ step_iter buf s with
  | zeroPtr hd hhp => simp [measure, hhp]
  | zero hd hhp =>
    have := drop_cons_length hd
    have := sub_mul_succ_le (buf.length + 2) (show s.pos + 1 ≤ buf.length by omega) (Nat.lt_succ_self _)
    simp [measure, hhp]; omega
  | ptr hd hb hhp =>
    have := drop_cons_length hd
    have := sub_mul_succ_le (buf.length + 2) (show s.pos + 2 ≤ buf.length by simp at this; omega)
      (show s.pos < _ by omega)
    simp [measure, hhp]; omega
  | @label l t hd h1 _ _ =>
    have := drop_cons_length hd
    have := sub_mul_succ_le (buf.length + 2) (show s.pos + 1 + l.length ≤ buf.length by simp at this; omega)
      (show s.pos < _ by omega)
    cases hhp : s.hp <;> simp [measure, hhp] <;> omega

theorem loop_terminates (buf : Bytes) : ∀ (f : Nat) (s : St), measure buf s ≤ f →
    ∃ r, loop buf f s = some r := by
  intro f
  induction f with
  | zero =>
    intro s h
    exfalso
    unfold measure at h
    split at h <;> omega
  | succ f ih =>
    intro s h
    rw [loop_succ]
    cases hs : step buf s with
    | done r => exact ⟨r, rfl⟩
    | next s' =>
      have := step_measure buf s s' hs
      exact ih s' (by omega)

theorem measure_init_le (buf : Bytes) : measure buf init ≤ fuelFor buf := by
  simp only [measure, init, fuelFor]
  simp
  generalize buf.length = n
  rw [Nat.add_mul]
  omega

def Runs (buf : Bytes) (s : St) (r : Res (List Bytes)) : Prop := ∃ f, loop buf f s = some r

theorem Runs.det {buf : Bytes} {s : St} {r1 r2 : Res (List Bytes)}
    (h1 : Runs buf s r1) (h2 : Runs buf s r2) : r1 = r2 := by
  obtain ⟨f1, h1⟩ := h1
  obtain ⟨f2, h2⟩ := h2
  have a := loop_mono buf f1 f2 s r1 h1
  have b := loop_mono buf f2 f1 s r2 h2
  rw [Nat.add_comm] at b
  rw [a] at b
  injection b

theorem Runs.of_done {buf : Bytes} {s : St} {r : Res (List Bytes)} (h : step buf s = .done r) :
    Runs buf s r := ⟨1, by rw [loop_succ, h]⟩

theorem Runs.of_next {buf : Bytes} {s s' : St} {r : Res (List Bytes)} (h : step buf s = .next s')
    (hr : Runs buf s' r) : Runs buf s r := by
  obtain ⟨f, hf⟩ := hr
  exact ⟨f + 1, by rw [loop_succ, h]; exact hf⟩

theorem labelsFromBytes_eq_of_runs {buf : Bytes} {r : Res (List Bytes)} (h : Runs buf init r) :
    labelsFromBytes buf = r := by
  obtain ⟨r', hr'⟩ := loop_terminates buf (fuelFor buf) init (measure_init_le buf)
  have : r' = r := Runs.det ⟨_, hr'⟩ h
  unfold labelsFromBytes
  rw [hr', this]

theorem runs_of_labelsFromBytes (buf : Bytes) : Runs buf init (labelsFromBytes buf) := by
  obtain ⟨r', hr'⟩ := loop_terminates buf (fuelFor buf) init (measure_init_le buf)
  refine ⟨fuelFor buf, ?_⟩
  unfold labelsFromBytes
  rw [hr']

end Dhcp.Label
