import Dhcp.Cost
import DhcpProofs.Lemmas.Label
import DhcpProofs.Lemmas.LabelApi
/-
  Size of a decoded rfc1035label set against the length of its wire form
  (property C09): the decoder may expand its input (a 2-octet compression
  pointer re-reads other bytes of the buffer and yields a name of up to 253 bytes), but
  only by a constant factor.  Proved name by name on the declarative reading
  `Spec.Name.Names` of the buffer, which is what `labelsFromBytes` returns (C19).
-/
namespace Dhcp.Cost
open Dhcp.Label Dhcp.Spec.Name

def NoPtr (b : Bytes) : Prop := ∀ x ∈ b, x.toNat &&& 0xc0 ≠ 0xc0

theorem szItems_append (xs ys : List Bytes) : szItems (xs ++ ys) = szItems xs + szItems ys := by
  induction xs with
  | nil => simp [szItems]
  | cons x xs ih => simp only [List.cons_append, szItems, ih]; omega

/-- Every name costs one node and its dotted form.  A name that ends in a zero
octet or at the end of the buffer is no longer than its wire form, so `K ≥ 32`
per wire byte pays for it (the worst case is the empty name: one octet, one
node).  A name that ends in a compression pointer is at most 253 bytes
whatever the pointer leads to, and took at least the pointer's two octets:
`2K ≥ 253 + 32`. -/
theorem names_size (K : Nat) (hK : 32 ≤ K) {msg : Bytes} : ∀ {bs : Bytes} {ns : List Bytes},
    Names msg bs ns → 143 ≤ K ∨ NoPtr bs → szItems ns ≤ K * bs.length := by
  intro bs ns h
  induction h with
  | done => intro _; simp [szItems]
  | partialName bs ls hne hseq _ =>
    intro _
    have := (labelSeq_length hseq).1
    have := Nat.mul_le_mul_right bs.length hK
    simp only [hne, if_false, szItems, nodeC] at *; omega
  | plain bs ls rest ns hseq _ _ ih =>
    intro hptr
    obtain ⟨hl, pre, rfl⟩ := labelSeq_length hseq
    have := ih (hptr.imp_right fun h x hx => h x (by simp [hx]))
    have := Nat.mul_le_mul_right (pre.length + 1) hK
    simp only [szItems, nodeC, List.length_append, List.length_cons, Nat.mul_add] at *
    split at hl <;> omega
  | ptr bs ls b0 b1 rest ls' rest' ns hseq hp _ _ hlen _ ih =>
    intro hptr
    obtain ⟨_, pre, rfl⟩ := labelSeq_length hseq
    have hK2 : 143 ≤ K := hptr.elim id fun h =>
      absurd ((and_c0_eq b0.toNat b0.toNat_lt).mpr hp) (h b0 (by simp))
    have := ih (hptr.imp_right fun h x hx => h x (by simp [hx]))
    simp only [szItems, nodeC, maxDotted, List.length_append, List.length_cons, Nat.mul_add] at *
    omega

theorem names_le {msg bs : Bytes} {ns : List Bytes} (h : Names msg bs ns) :
    ∀ n ∈ ns, n.length ≤ 253 := by
  induction h with
  | done => simp
  | partialName _ _ _ _ hlen => simpa [maxDotted] using hlen
  | plain _ _ _ _ _ hlen _ ih => simpa [maxDotted] using ⟨hlen, ih⟩
  | ptr _ _ _ _ _ _ _ _ _ _ _ _ hlen _ ih => simpa [maxDotted] using ⟨hlen, ih⟩

theorem labels_size_gen (K : Nat) (hK : 32 ≤ K) (buf : Bytes) (hptr : 143 ≤ K ∨ NoPtr buf)
    (labs : List Bytes) (h : labelsFromBytes buf = .ok labs) : szItems labs ≤ K * buf.length :=
  names_size K hK (labelsFromBytes_eq_ok_iff.mp h) hptr

theorem sizeLabels_le (buf : Bytes) (l : Labels) (h : fromBytes buf = .ok l) :
    sizeLabels l ≤ 144 * buf.length + 32 := by
  obtain ⟨h1, h2⟩ := fromBytes_eq_ok h
  have := labels_size_gen 143 (by decide) buf (Or.inl (Nat.le_refl _)) _ h1
  simp only [sizeLabels, h2, Option.getD_some, nodeC]; omega

theorem sizeLabels_le_noptr (buf : Bytes) (hn : NoPtr buf) (l : Labels) (h : fromBytes buf = .ok l) :
    sizeLabels l ≤ 33 * buf.length + 32 := by
  obtain ⟨h1, h2⟩ := fromBytes_eq_ok h
  have := labels_size_gen 32 (Nat.le_refl _) buf (Or.inr hn) _ h1
  simp only [sizeLabels, h2, Option.getD_some, nodeC]; omega

/-! ### non-vacuity: a buffer with a compression pointer decodes (the second name re-reads
the first: 2 pointer octets yield the name `a`), and a pointer-free buffer -/

example : fromBytes [1, 97, 0, 0xc0, 0] = .ok { original := some [1, 97, 0, 0xc0, 0], labels := [[97], [97]] } := by
  decide

example : sizeLabels { original := some [1, 97, 0, 0xc0, 0], labels := [[97], [97]] } > 5 := by decide

example : NoPtr [1, 97, 1, 98, 0, 0] := by unfold NoPtr; decide

end Dhcp.Cost
