import DhcpProofs.Lemmas.V6EncGrammar
import DhcpProofs.Lemmas.LabelApi
/-
  C02 with freshly built label sets: the normalisation `normMsg` (fresh label
  set ↦ its decoded form, everywhere in a message) does not change the encoding,
  maps the extended domain `WFMsg'` into the round-trip domain `WFMsg`, and is
  the identity on `WFMsg`.  With `dec6_encMsg` this gives
  `dec6 (encMsg m) = ok (normMsg m)` on `WFMsg'`.
-/
namespace Dhcp.V6

theorem normLabels_labels (l : Label.Labels) : (normLabels l).labels = l.labels := rfl

theorem normLabels_toBytes (l : Label.Labels) : (normLabels l).toBytes = l.toBytes := by
  cases l with
  | mk orig ns =>
    simp only [normLabels]
    generalize ht : (Label.Labels.mk orig ns).toBytes = t
    -- the three ways `t` can arise
    have key : (Label.labelsFromBytes t = .ok ns) ∨ t = Label.labelsToBytes ns ∨
        (∀ ns', Label.labelsFromBytes t ≠ .ok ns') := by
      subst ht
      unfold Label.Labels.toBytes
      simp only
      cases hr : Label.labelsFromBytes (Label.goBytes orig) with
      | ok ns0 =>
        simp only
        by_cases hc : orig ≠ none ∧ ns0 = ns
        · rw [if_pos hc]; left; rw [hr, hc.2]
        · rw [if_neg hc]; right; left; rfl
      | err =>
        simp only
        right; right; intro ns' h; rw [hr] at h; cases h
      | panic => exact absurd hr (Label.labelsFromBytes_ne_panic _)
    unfold Label.Labels.toBytes
    simp only [Label.goBytes]
    rcases key with h | h | h
    · rw [h]; simp
    · cases hr : Label.labelsFromBytes t with
      | ok ns' => simp only; split <;> simp [h]
      | err => rfl
      | panic => rfl
    · cases hr : Label.labelsFromBytes t with
      | ok ns' => exact absurd hr (h ns')
      | err => rfl
      | panic => rfl

theorem normLabels_of_LabelsOK {l : Label.Labels} (h : LabelsOK l) : normLabels l = l := by
  obtain ⟨b, hb, hp⟩ := h
  cases l with
  | mk orig ns => subst hb; simp only [normLabels, Label.toBytes_of_OK rfl hp]

theorem normLabels_idem (l : Label.Labels) : normLabels (normLabels l) = normLabels l := by
  show Label.Labels.mk (some (normLabels l).toBytes) (normLabels l).labels = _
  rw [normLabels_toBytes, normLabels_labels]; rfl

theorem labelsFromBytes_toBytes_of_OK' {l : Label.Labels} (h : LabelsOK' l) :
    Label.labelsFromBytes l.toBytes = .ok l.labels := by
  cases l with
  | mk orig ns =>
    rcases h with ⟨b, hb, hp⟩ | ⟨hv, ho⟩
    · rw [Label.toBytes_of_OK hb hp]; exact hp
    · simp only at hv ho
      rcases ho with ho | ⟨b, ns0, ho, hp⟩
      · subst ho
        rw [Label.toBytes_original_none ⟨none, ns⟩ rfl]
        exact Label.labelsFromBytes_labelsToBytes ns hv
      · subst ho
        by_cases hc : ns0 = ns
        · subst hc
          rw [Label.toBytes_of_OK rfl hp]; exact hp
        · rw [Label.toBytes_of_edited hp hc]; exact Label.labelsFromBytes_labelsToBytes ns hv

theorem LabelsOK_norm {l : Label.Labels} (h : LabelsOK' l) : LabelsOK (normLabels l) :=
  ⟨l.toBytes, rfl, labelsFromBytes_toBytes_of_OK' h⟩

theorem normNTP_code (s : NTPSub) : (normNTP s).code = s.code := by cases s <;> rfl

theorem encNTPSub_norm (s : NTPSub) : encNTPSub (normNTP s) = encNTPSub s := by
  cases s <;> simp only [normNTP, encNTPSub, normLabels_toBytes]

theorem NTPSubOK_norm {s : NTPSub} (h : NTPSubOK' s) : NTPSubOK (normNTP s) := by
  cases s with
  | srvFQDN l =>
    simp only [NTPSubOK'] at h
    exact ⟨LabelsOK_norm h.1, by rw [normLabels_labels]; exact h.2⟩
  | srvAddr ip => exact h
  | mcAddr ip => exact h
  | generic c d => exact h

theorem encNTP_list_norm (subs : List NTPSub) :
    (subs.map normNTP).flatMap (fun s => tlv s.code (encNTPSub s)) =
      subs.flatMap (fun s => tlv s.code (encNTPSub s)) := by
  induction subs with
  | nil => rfl
  | cons s ss ih => simp only [List.map_cons, List.flatMap_cons, normNTP_code, encNTPSub_norm, ih]

theorem normOpt_code (o : Opt6) : (normOpt o).code = o.code := by
  cases o <;> rfl

mutual
theorem encOpt_norm (o : Opt6) : encOpt (normOpt o) = encOpt o := by
  cases o with
  | iana _ _ _ os | iata _ os | iaaddr _ _ _ os | iapd _ _ _ os | iaprefix _ _ _ os | fourRD os =>
    simp only [normOpt, encOpt, encOpts_norm os]
  | relayMsg m => exact encMsg_norm m
  | domainSearch | fqdn => simp only [normOpt, encOpt, normLabels_toBytes]
  | ntp subs => exact encNTP_list_norm subs
  | _ => rfl
theorem encOpts_norm : (os : List Opt6) → encOpts (normOpts os) = encOpts os := fun os => by
  cases os with
  | nil => rfl
  | cons o os => simp only [normOpts, encOpts, normOpt_code, encOpt_norm o, encOpts_norm os]
theorem encMsg_norm (m : Msg6) : encMsg (normMsg m) = encMsg m := by
  cases m with
  | msg t xid os | relay t h l p os => simp only [normMsg, encMsg, encOpts_norm os]
end

mutual
theorem WFOpt_norm (o : Opt6) (h : WFOpt' o) : WFOpt (normOpt o) := by
  cases o with
  | iana _ _ _ os | iaaddr _ _ _ os | iapd _ _ _ os | iaprefix _ _ _ os =>
    exact ⟨h.1, h.2.1, h.2.2.1, WFOpts_norm os h.2.2.2⟩
  | iata _ os => exact ⟨h.1, WFOpts_norm os h.2⟩
  | relayMsg m => exact WFMsg_norm m h
  | fourRD os => exact WFOpts_norm os h
  | domainSearch | fqdn => exact LabelsOK_norm h
  | ntp subs =>
    intro s hs
    obtain ⟨s0, hs0, rfl⟩ := List.mem_map.mp hs
    exact ⟨NTPSubOK_norm (h s0 hs0).1, by rw [encNTPSub_norm]; exact (h s0 hs0).2⟩
  | _ => exact h
theorem WFOpts_norm : (os : List Opt6) → WFOpts' os → WFOpts (normOpts os) := fun os h => by
  cases os with
  | nil => trivial
  | cons o os => exact ⟨WFOpt_norm o h.1, by rw [encOpt_norm]; exact h.2.1, WFOpts_norm os h.2.2⟩
theorem WFMsg_norm (m : Msg6) (h : WFMsg' m) : WFMsg (normMsg m) := by
  cases m with
  | msg _ _ os => exact ⟨h.1, h.2.1, WFOpts_norm os h.2.2⟩
  | relay _ _ _ _ os => exact ⟨h.1, h.2.1, h.2.2.1, WFOpts_norm os h.2.2.2⟩
end

theorem NTPSubOK'_of_OK {s : NTPSub} (h : NTPSubOK s) : NTPSubOK' s := by
  cases s with
  | srvFQDN l => exact ⟨.inl h.1, h.2⟩
  | _ => exact h

mutual
theorem WFOpt'_of_WF : (o : Opt6) → WFOpt o → WFOpt' o := fun o h => by
  cases o with
  | iana _ _ _ os | iaaddr _ _ _ os | iapd _ _ _ os | iaprefix _ _ _ os =>
    exact ⟨h.1, h.2.1, h.2.2.1, WFOpts'_of_WF os h.2.2.2⟩
  | iata _ os => exact ⟨h.1, WFOpts'_of_WF os h.2⟩
  | relayMsg m => exact WFMsg'_of_WF m h
  | fourRD os => exact WFOpts'_of_WF os h
  | domainSearch | fqdn => exact .inl h
  | ntp => exact fun s hs => ⟨NTPSubOK'_of_OK (h s hs).1, (h s hs).2⟩
  | _ => exact h
theorem WFOpts'_of_WF : (os : List Opt6) → WFOpts os → WFOpts' os := fun os h => by
  cases os with
  | nil => trivial
  | cons o os => exact ⟨WFOpt'_of_WF o h.1, h.2.1, WFOpts'_of_WF os h.2.2⟩
theorem WFMsg'_of_WF (m : Msg6) (h : WFMsg m) : WFMsg' m := by
  cases m with
  | msg _ _ os => exact ⟨h.1, h.2.1, WFOpts'_of_WF os h.2.2⟩
  | relay _ _ _ _ os => exact ⟨h.1, h.2.1, h.2.2.1, WFOpts'_of_WF os h.2.2.2⟩
end

theorem dec6_encMsg_fresh (m : Msg6) (h : WFMsg' m) : dec6 (encMsg m) = .ok (normMsg m) := by
  rw [← encMsg_norm m]
  exact dec6_encMsg (normMsg m) (WFMsg_norm m h)

theorem parseOption_encOpt_fresh (o : Opt6) (h : WFOpt' o) :
    parseOption o.code (encOpt o) = .ok (normOpt o) := by
  rw [← encOpt_norm o, ← normOpt_code o]
  exact parseOption_encOpt (normOpt o) (WFOpt_norm o h)

theorem normMsg_of_WF : (m : Msg6) → WFMsg m → normMsg m = m :=
  fun m h => Res.ok.inj ((dec6_encMsg_fresh m (WFMsg'_of_WF m h)).symm.trans (dec6_encMsg m h))

theorem normOpt_of_WF : (o : Opt6) → WFOpt o → normOpt o = o :=
  fun o h => Res.ok.inj ((parseOption_encOpt_fresh o (WFOpt'_of_WF o h)).symm.trans (parseOption_encOpt o h))

theorem normOpts_of_WF : (os : List Opt6) → WFOpts os → normOpts os = os := by
  intro os h
  have h1 := (decOpts_iff_rfc _ _).mpr (POpts'_enc os h)
  have h2 := (decOpts_iff_rfc _ _).mpr (POpts'_enc _ (WFOpts_norm os (WFOpts'_of_WF os h)))
  rw [encOpts_norm, h1] at h2
  exact (Res.ok.inj h2).symm

end Dhcp.V6
