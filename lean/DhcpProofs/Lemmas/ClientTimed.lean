import Dhcp.Client.Timed
/-
  The timed client model (C11 timing part, C12).  Layer 1: the schedule
  function, the invariant of a call (`Inv`), and the two statements every
  property about `runObs` is read off: `runObs_cases` (what a run can look like)
  and `quiet_then_terminal_cases` (what the first terminal observation does).
  Layer 2: `mem_runCall`, the script-level model in terms of layer 1; and, for
  scripts that only inject datagrams, how a view of a group differs from its
  quiescent view (`WeakV`, `groupViews_arrivals`, in namespace `Refine`: ClientRefine.lean
  builds on them).
-/
namespace Dhcp.Client.Timed

/-- Offset of try `k`: `T·(2^k − 1)`. -/
def off (T : Int) (k : Nat) : Int := T * (2 ^ k - 1)

theorem sched_eq (T : Int) (m : Nat) : sched T m = (List.range m).map (off T) := rfl

theorem off_zero (T : Int) : off T 0 = 0 := by simp [off]

theorem off_succ (T : Int) (k : Nat) : off T (k + 1) = off T k + T * 2 ^ k := by
  unfold off
  rw [Int.pow_succ, Int.mul_sub, Int.mul_sub, ← Int.mul_assoc]
  generalize T * 2 ^ k = q
  omega

theorem timeout_pos {T : Int} (hT : 0 < T) (k : Nat) : 0 < T * 2 ^ k :=
  Int.mul_pos hT (Int.pow_pos (by decide))

theorem off_lt_succ {T : Int} (hT : 0 < T) (k : Nat) : off T k < off T (k + 1) := by
  have := timeout_pos hT k
  rw [off_succ]; omega

theorem off_mono {T : Int} (hT : 0 < T) {a b : Nat} (h : a ≤ b) : off T a ≤ off T b := by
  induction h with
  | refl => exact Int.le_refl _
  | step _ ih => exact Int.le_trans ih (Int.le_of_lt (off_lt_succ hT _))

theorem off_nonneg {T : Int} (hT : 0 < T) (k : Nat) : 0 ≤ off T k :=
  off_zero T ▸ off_mono hT (Nat.zero_le k)

theorem lt_of_off_lt {T : Int} (hT : 0 < T) {a b : Nat} (h : off T a < off T b) : a < b := by
  by_cases hab : a < b
  · exact hab
  · have := off_mono hT (Nat.le_of_not_lt hab); omega

theorem try_unique {T : Int} (hT : 0 < T) {τ : Int} {a b : Nat} (ha : off T a ≤ τ) (ha' : τ < off T (a + 1))
    (hb : off T b ≤ τ) (hb' : τ < off T (b + 1)) : a = b := by
  have := lt_of_off_lt hT (Int.lt_of_le_of_lt ha hb')
  have := lt_of_off_lt hT (Int.lt_of_le_of_lt hb ha')
  omega

theorem off_le_budget {T n : Int} (hT : 0 < T) {k : Nat} (hn : 0 ≤ n) (hk : n < 0 ∨ (k : Int) < n) :
    off T (k + 1) ≤ off T n.toNat :=
  off_mono hT (by omega)

theorem sched_succ (T : Int) (m : Nat) : sched T (m + 1) = sched T m ++ [off T m] := by
  simp [sched_eq, List.range_succ]

theorem sched_length (T : Int) (m : Nat) : (sched T m).length = m := by simp [sched_eq]

theorem mem_sched {T : Int} {m : Nat} {x : Int} : x ∈ sched T m ↔ ∃ k, k < m ∧ x = off T k := by
  simp [sched_eq, eq_comm]

/-- Invariant of a call parked in the `select` of try `k`. -/
structure Good (T n : Int) (w : Wait) : Prop where
  hstart : w.start = off T w.k
  htimeout : w.timeout = T * 2 ^ w.k
  htxs : w.txs = sched T (w.k + 1)
  htries : n < 0 ∨ (w.k : Int) < n

theorem Good.deadline {T n : Int} {w : Wait} (g : Good T n w) : w.start + w.timeout = off T (w.k + 1) := by
  rw [off_succ, g.hstart, g.htimeout]

def exhausted (T n : Int) : CState := .done (sched T n.toNat) (off T n.toNat) .noResp

theorem fire_spec {T n : Int} {w : Wait} (g : Good T n w) :
    (∃ w', fire n w = .waiting w' ∧ Good T n w' ∧ w'.k = w.k + 1 ∧ w'.clk = w.clk) ∨
    (fire n w = exhausted T n ∧ 0 ≤ n ∧ n.toNat = w.k + 1) := by
  unfold fire
  by_cases h : n < 0 ∨ ((w.k : Int) + 1 < n)
  · left
    simp only [h, if_true]
    refine ⟨_, rfl, ⟨?_, ?_, ?_, ?_⟩, rfl, rfl⟩
    · simp [g.deadline]
    · simp only [g.htimeout, Int.pow_succ, backoffMul]
      rw [Int.mul_comm 2, Int.mul_assoc]
    · simp only [g.htxs, g.deadline]; rw [sched_succ T (w.k + 1)]
    · show n < 0 ∨ ((w.k + 1 : Nat) : Int) < n
      omega
  · right
    simp only [h, if_false]
    have hk := g.htries
    have hn' : n.toNat = w.k + 1 := by omega
    refine ⟨?_, by omega, hn'⟩
    rw [exhausted, hn', g.htxs, g.deadline]

theorem advance_done (n t : Int) (incl : Bool) (fuel : Nat) (txs : List Int) (t' : Int) (o : Outcome) :
    advance n t incl fuel (.done txs t' o) = .done txs t' o := by
  cases fuel <;> rfl

theorem advance_spec {T n : Int} (hT : 0 < T) (t : Int) (incl : Bool) (fuel : Nat) (w : Wait) (g : Good T n w)
    (hf : (t - w.start).toNat < fuel) :
    (∃ w', advance n t incl fuel (.waiting w) = .waiting w' ∧ Good T n w' ∧ w'.clk = w.clk ∧
        ¬ (off T (w'.k + 1) < t ∨ (incl = true ∧ off T (w'.k + 1) = t)) ∧ (w.start ≤ t → off T w'.k ≤ t)) ∨
    (advance n t incl fuel (.waiting w) = exhausted T n ∧ 0 ≤ n ∧ off T n.toNat ≤ t) := by
  induction fuel generalizing w with
  | zero => omega
  | succ fuel ih =>
    unfold advance
    simp only [g.deadline]
    by_cases hc : off T (w.k + 1) < t ∨ (incl = true ∧ off T (w.k + 1) = t)
    · simp only [hc, if_true]
      have hle : off T (w.k + 1) ≤ t := by omega
      rcases fire_spec g with ⟨w1, hw1, g1, hk1, hclk1⟩ | ⟨hd, hn0, hnk⟩
      · rw [hw1]
        have hs1 : w1.start = off T (w.k + 1) := by rw [g1.hstart, hk1]
        have hlt := off_lt_succ hT w.k
        have hf1 : (t - w1.start).toNat < fuel := by
          rw [hs1]; rw [g.hstart] at hf; omega
        rcases ih w1 g1 hf1 with ⟨w', hw', g', hclk', hnot, hk'⟩ | h
        · exact .inl ⟨w', hw', g', hclk'.trans hclk1, hnot, fun _ => hk' (hs1 ▸ hle)⟩
        · exact .inr h
      · rw [hd]
        exact .inr ⟨advance_done .., hn0, hnk ▸ hle⟩
    · simp only [hc, if_false]
      exact .inl ⟨w, rfl, g, rfl, hc, fun h => g.hstart ▸ h⟩

theorem advanceFuel_ok (start t : Int) : (t - start).toNat < advanceFuel start t := by
  unfold advanceFuel; omega

theorem stepObs_waiting (n : Int) (w : Wait) (o : Obs) :
    stepObs n (.waiting w) o =
      match advance n (max o.t w.clk) o.afterTimer (advanceFuel w.start (max o.t w.clk)) (.waiting w) with
      | .done txs t' out => .done txs t' out
      | .waiting w' =>
        match o.kind with
        | .irr | .rej => .waiting { w' with clk := max o.t w.clk }
        | .acc => .done w'.txs (max o.t w.clk) (.resp o.tag)
        | .ctx => .done w'.txs (max o.t w.clk) .ctxErr
        | .closed => .done w'.txs (max o.t w.clk) .noResp := rfl

theorem stepObs_done (n : Int) (txs : List Int) (t : Int) (out : Outcome) (o : Obs) :
    stepObs n (.done txs t out) o = .done txs t out := rfl

def Quiet (obs : List Obs) : Prop := ∀ o ∈ obs, o.kind = .irr ∨ o.kind = .rej

def terminalOutcome (o : Obs) : Outcome :=
  match o.kind with
  | .acc => .resp o.tag
  | .ctx => .ctxErr
  | _ => .noResp

def Terminal (o : Obs) : Prop := o.kind = .acc ∨ o.kind = .ctx ∨ o.kind = .closed

theorem terminal_or_quiet (o : Obs) : Terminal o ∨ (o.kind = .irr ∨ o.kind = .rej) := by
  unfold Terminal; cases o.kind <;> simp

theorem not_terminal_of_quiet {o : Obs} (h : o.kind = .irr ∨ o.kind = .rej) : ¬ Terminal o := by
  unfold Terminal; rcases h with h | h <;> simp [h]

theorem stepObs_of_advance (n : Int) (w w' : Wait) (o : Obs)
    (h : advance n (max o.t w.clk) o.afterTimer (advanceFuel w.start (max o.t w.clk)) (.waiting w) = .waiting w') :
    (Terminal o → stepObs n (.waiting w) o = .done w'.txs (max o.t w.clk) (terminalOutcome o)) ∧
    ((o.kind = .irr ∨ o.kind = .rej) → stepObs n (.waiting w) o = .waiting { w' with clk := max o.t w.clk }) := by
  rw [stepObs_waiting, h]
  unfold Terminal terminalOutcome
  cases o.kind <;> simp

/-- An observation the schedule has run out for: after the budget, or on it
with the last deadline having fired first. -/
def LateObs (T n : Int) (o : Obs) : Prop :=
  0 ≤ n ∧ (off T n.toNat < o.t ∨ (o.t = off T n.toNat ∧ o.afterTimer = true))

/-- What a call can look like.  Parked in try `k` (`Good`), finished because the
schedule was exhausted, or — only if `E`: "an observation may have ended it" —
finished by an observation at an instant `t` of some try `k`.  `E = False` is the
invariant of a call that met nothing but rejected/unseen datagrams and
observations that came too late. -/
def Inv (T n : Int) (E : Prop) : CState → Prop
  | .waiting w => Good T n w ∧ w.start ≤ w.clk
  | .done txs t o => (.done txs t o = exhausted T n ∧ 0 ≤ n) ∨
      (E ∧ ∃ k : Nat, txs = sched T (k + 1) ∧ (n < 0 ∨ (k : Int) < n) ∧ off T k ≤ t ∧ t ≤ off T (k + 1))

theorem begin_inv (T n : Int) (E : Prop) : Inv T n E (begin T n) := by
  unfold begin
  split
  · next h => subst h; exact .inl ⟨by simp [exhausted, sched_eq, off_zero], Int.le_refl _⟩
  · next h =>
    refine ⟨⟨by simp [off_zero], by simp, by simp [sched_eq, off_zero], ?_⟩, Int.le_refl _⟩
    show n < 0 ∨ ((0 : Nat) : Int) < n
    omega

theorem stepObs_inv {T n : Int} {E : Prop} (hT : 0 < T) (st : CState) (o : Obs) (h : Inv T n E st)
    (ho : Terminal o → E ∨ LateObs T n o) : Inv T n E (stepObs n st o) := by
  cases st with
  | done txs t out => exact h
  | waiting w =>
    obtain ⟨g, hclk⟩ := h
    have hmax : w.clk ≤ max o.t w.clk := Int.le_max_right _ _
    rcases advance_spec hT (max o.t w.clk) o.afterTimer _ w g (advanceFuel_ok _ _) with
      ⟨w', hw', g', hclk', hnot, hk'⟩ | ⟨hd, hn0, hle⟩
    · have hstart := hk' (by omega)
      rcases terminal_or_quiet o with ht | hq
      · rw [(stepObs_of_advance n w w' o hw').1 ht]
        rcases ho ht with he | ⟨hn0, hl⟩
        · exact .inr ⟨he, w'.k, g'.htxs, g'.htries, hstart, by omega⟩
        · -- too late for a parked call: its deadline would have fired
          have := off_le_budget hT hn0 g'.htries
          have := Int.le_max_left o.t w.clk
          refine absurd ?_ hnot
          rcases hl with hl | ⟨hl, hf⟩
          · exact .inl (by omega)
          · by_cases hlt : off T (w'.k + 1) < max o.t w.clk
            · exact .inl hlt
            · exact .inr ⟨hf, by omega⟩
      · rw [(stepObs_of_advance n w w' o hw').2 hq]
        exact ⟨⟨g'.hstart, g'.htimeout, g'.htxs, g'.htries⟩, g'.hstart ▸ hstart⟩
    · rw [stepObs_waiting, hd]
      exact .inl ⟨rfl, hn0⟩

theorem runFrom_cons (n : Int) (st : CState) (o : Obs) (obs : List Obs) :
    runFrom n st (o :: obs) = runFrom n (stepObs n st o) obs := rfl

theorem runFrom_append (n : Int) (st : CState) (a b : List Obs) :
    runFrom n st (a ++ b) = runFrom n (runFrom n st a) b := by
  simp [runFrom, List.foldl_append]

theorem runFrom_done (n : Int) (txs : List Int) (t : Int) (out : Outcome) (obs : List Obs) :
    runFrom n (.done txs t out) obs = .done txs t out := by
  induction obs with
  | nil => rfl
  | cons o obs ih => simpa [runFrom, stepObs_done] using ih

theorem runFrom_induct {n : Int} {P : CState → Prop} {Q : Obs → Prop}
    (hstep : ∀ st o, Q o → P st → P (stepObs n st o)) (obs : List Obs) (st : CState) (hq : ∀ o ∈ obs, Q o)
    (h : P st) : P (runFrom n st obs) := by
  induction obs generalizing st with
  | nil => exact h
  | cons o obs ih =>
    exact ih _ (fun o' ho' => hq o' (List.mem_cons_of_mem _ ho')) (hstep st o (hq o (List.mem_cons_self ..)) h)

theorem runFrom_inv {T n : Int} {E : Prop} (hT : 0 < T) (obs : List Obs) (st : CState)
    (ho : ∀ o ∈ obs, Terminal o → E ∨ LateObs T n o) (h : Inv T n E st) : Inv T n E (runFrom n st obs) :=
  runFrom_induct (fun st o ho h => stepObs_inv hT st o h ho) obs st ho h

theorem quiet_inert {T n : Int} {obs : List Obs} (hq : Quiet obs) : ∀ o ∈ obs, Terminal o → False ∨ LateObs T n o :=
  fun o ho ht => absurd ht (not_terminal_of_quiet (hq o ho))

def Bounded (b : Int) : CState → Prop
  | .waiting w => w.clk ≤ b
  | .done _ t _ => t ≤ b

theorem begin_bounded (T n : Int) {b : Int} (hb : 0 ≤ b) : Bounded b (begin T n) := by
  unfold begin; split <;> exact hb

theorem advance_bounded (n : Int) {t b : Int} (ht : t ≤ b) (incl : Bool) (fuel : Nat) (st : CState) (h : Bounded b st) :
    Bounded b (advance n t incl fuel st) := by
  fun_induction advance n t incl fuel st with
  | case1 => exact h
  | case2 => exact h
  | case3 fuel w d hc ih =>
    refine ih ?_
    unfold fire
    split
    · exact h
    · show d ≤ b
      omega
  | case4 => exact h

theorem stepObs_bounded (n : Int) {b : Int} (st : CState) (o : Obs) (ho : o.t ≤ b) (h : Bounded b st) :
    Bounded b (stepObs n st o) := by
  cases st with
  | done txs t out => exact h
  | waiting w =>
    have hb : max o.t w.clk ≤ b := Int.max_le.2 ⟨ho, h⟩
    have ha := advance_bounded n hb o.afterTimer (advanceFuel w.start (max o.t w.clk)) _ h
    rw [stepObs_waiting]
    split
    · next hd => rwa [hd] at ha
    · split <;> exact hb

theorem runFrom_bounded (n : Int) {b : Int} (obs : List Obs) (st : CState) (ho : ∀ o ∈ obs, o.t ≤ b)
    (h : Bounded b st) : Bounded b (runFrom n st obs) :=
  runFrom_induct (fun st o ho h => stepObs_bounded n st o ho h) obs st ho h

theorem finish_done (n H : Int) (txs : List Int) (t : Int) (o : Outcome) :
    finish n H (.done txs t o) = ⟨txs, some (t, o)⟩ := rfl

theorem finish_waiting (n H : Int) (w : Wait) :
    finish n H (.waiting w) =
      match advance n H true (advanceFuel w.start H) (.waiting w) with
      | .done txs t o => ⟨txs, some (t, o)⟩
      | .waiting w' => ⟨w'.txs, none⟩ := rfl

/-- **What a run can look like**, for observations among which the terminal ones
(acceptable response, context end, Close) are too late unless `E`:
the schedule exhausted; still parked in a try `k` at the horizon; or (only if
`E`) ended by an observation during a try `k`. -/
theorem runObs_cases {T n : Int} {E : Prop} (hT : 0 < T) (obs : List Obs) (H : Int)
    (ho : ∀ o ∈ obs, Terminal o → E ∨ LateObs T n o) :
    (0 ≤ n ∧ runObs T n obs H = ⟨sched T n.toNat, some (off T n.toNat, .noResp)⟩ ∧
      ((∀ o ∈ obs, o.t ≤ H) → 0 ≤ H → off T n.toNat ≤ H)) ∨
    (∃ k : Nat, (n < 0 ∨ (k : Int) < n) ∧ runObs T n obs H = ⟨sched T (k + 1), none⟩ ∧ H < off T (k + 1) ∧
      ((∀ o ∈ obs, o.t ≤ H) → 0 ≤ H → off T k ≤ H)) ∨
    (E ∧ ∃ (k : Nat) (t : Int) (o : Outcome), (n < 0 ∨ (k : Int) < n) ∧
      runObs T n obs H = ⟨sched T (k + 1), some (t, o)⟩ ∧ off T k ≤ t ∧ t ≤ off T (k + 1)) := by
  have hi := runFrom_inv hT obs _ ho (begin_inv T n E)
  have hb : (∀ o ∈ obs, o.t ≤ H) → 0 ≤ H → Bounded H (runFrom n (begin T n) obs) :=
    fun hle h0 => runFrom_bounded n obs _ hle (begin_bounded T n h0)
  unfold runObs
  generalize runFrom n (begin T n) obs = st at hi hb ⊢
  cases st with
  | done txs t out =>
    rw [finish_done]
    rcases hi with ⟨he, hn0⟩ | ⟨he, k, h1, h2, h3, h4⟩
    · injection he with e1 e2 e3
      subst e1 e2 e3
      exact .inl ⟨hn0, rfl, hb⟩
    · exact .inr (.inr ⟨he, k, t, out, h2, by rw [h1], h3, h4⟩)
  | waiting w =>
    obtain ⟨g, hclk⟩ := hi
    rw [finish_waiting]
    rcases advance_spec hT H true _ w g (advanceFuel_ok _ _) with ⟨w', hw', g', _, hnot, hk'⟩ | ⟨hd, hn0, hle⟩
    · rw [hw']
      simp only [true_and] at hnot
      exact .inr (.inl ⟨w'.k, g'.htries, by simp [g'.htxs], by omega,
        fun hle h0 => hk' (Int.le_trans hclk (hb hle h0))⟩)
    · rw [hd]
      exact .inl ⟨hn0, rfl, fun _ _ => hle⟩

theorem advance_waiting_of_incl (n t : Int) (fuel : Nat) (st : CState) (w1 : Wait)
    (h : advance n t true fuel st = .waiting w1) : ∃ w2, advance n t false fuel st = .waiting w2 := by
  fun_induction advance n t true fuel st with
  | case1 st => exact ⟨w1, h⟩
  | case2 => cases h
  | case3 fuel w d hc ih =>
    unfold advance
    by_cases h1 : w.start + w.timeout < t
    · simp only [h1, true_or, if_true]
      exact ih h
    · simp only [h1, false_or, Bool.false_eq_true, false_and, if_false]
      exact ⟨w, rfl⟩
  | case4 fuel w d hc =>
    unfold advance
    exact ⟨w, if_neg fun h' => hc (h'.imp_right fun h'' => ⟨rfl, h''.2⟩)⟩

theorem terminal_prompt (T n : Int) (pre post : List Obs) (o : Obs) (H : Int) (ht : Terminal o)
    (h0 : 0 ≤ o.t) (hpre : ∀ p ∈ pre, p.t ≤ o.t) (hw : (runObs T n pre o.t).ret = none) :
    (runObs T n (pre ++ o :: post) H).ret = some (o.t, terminalOutcome o) := by
  unfold runObs at hw ⊢
  have hb := runFrom_bounded n pre _ hpre (begin_bounded T n h0)
  rw [runFrom_append, runFrom_cons]
  generalize runFrom n (begin T n) pre = st at hw hb ⊢
  cases st with
  | done txs t out => cases hw
  | waiting w =>
    have hmax : max o.t w.clk = o.t := Int.max_eq_left hb
    rw [finish_waiting] at hw
    split at hw
    · cases hw
    · next w1 hw1 =>
      have : ∃ w2, advance n o.t o.afterTimer (advanceFuel w.start o.t) (.waiting w) = .waiting w2 := by
        cases hf : o.afterTimer with
        | true => exact ⟨w1, hw1⟩
        | false => exact advance_waiting_of_incl n o.t _ _ w1 hw1
      obtain ⟨w2, hw2⟩ := this
      rw [(stepObs_of_advance n w w2 o (by rw [hmax]; exact hw2)).1 ht, runFrom_done, finish_done, hmax]

/-- **What the first terminal observation does.** Inert traffic no later than a
terminal observation `o` (acceptable response / context end / Close), then `o`:
either the schedule was exhausted by then, or the call ends at `o.t` with `o`'s
outcome, in the try `k` that `o.t` lies in, after exactly `k + 1` transmissions
— whatever follows, whatever the horizon.  An instant that is a deadline belongs
to the try it ends only if the observation raced with it and won (`afterTimer = false`). -/
theorem quiet_then_terminal_cases {T n : Int} (hT : 0 < T) (pre post : List Obs) (o : Obs) (H : Int)
    (hq : ∀ p ∈ pre, Terminal p → False ∨ LateObs T n p) (ht : Terminal o) (h0 : 0 ≤ o.t)
    (hpre : ∀ p ∈ pre, p.t ≤ o.t) :
    (0 ≤ n ∧ off T n.toNat ≤ o.t ∧
      runObs T n (pre ++ o :: post) H = ⟨sched T n.toNat, some (off T n.toNat, .noResp)⟩) ∨
    (∃ k : Nat, (n < 0 ∨ (k : Int) < n) ∧ off T k ≤ o.t ∧ o.t ≤ off T (k + 1) ∧
      (o.afterTimer = true → o.t < off T (k + 1)) ∧
      runObs T n (pre ++ o :: post) H = ⟨sched T (k + 1), some (o.t, terminalOutcome o)⟩) := by
  have hi := runFrom_inv hT pre _ hq (begin_inv T n False)
  have hb := runFrom_bounded n pre _ hpre (begin_bounded T n h0)
  unfold runObs
  rw [runFrom_append, runFrom_cons]
  generalize runFrom n (begin T n) pre = st at hi hb ⊢
  cases st with
  | done txs t out =>
    rcases hi with ⟨he, hn0⟩ | ⟨hf, _⟩
    · rw [he] at hb ⊢
      exact .inl ⟨hn0, hb, by simp only [exhausted, stepObs_done, runFrom_done, finish_done]⟩
    · exact hf.elim
  | waiting w =>
    obtain ⟨g, hclk⟩ := hi
    have hmax : max o.t w.clk = o.t := Int.max_eq_left hb
    rcases advance_spec hT (max o.t w.clk) o.afterTimer _ w g (advanceFuel_ok _ _) with
      ⟨w', hw', g', _, hnot, hk'⟩ | ⟨hd, hn0, hle⟩
    · rw [(stepObs_of_advance n w w' o hw').1 ht, runFrom_done, finish_done, g'.htxs]
      rw [hmax] at hnot hk' ⊢
      exact .inr ⟨w'.k, g'.htries, hk' (by omega), by omega, fun ha => by simp only [ha, true_and] at hnot; omega, rfl⟩
    · rw [stepObs_waiting, hd]
      exact .inl ⟨hn0, hmax ▸ hle, by simp only [exhausted, runFrom_done, finish_done]⟩

theorem exhausted_of_inert {T n : Int} (hT : 0 < T) (hn : 0 ≤ n) (obs : List Obs) (H : Int)
    (ho : ∀ o ∈ obs, Terminal o → False ∨ LateObs T n o) (hH : off T n.toNat ≤ H) :
    runObs T n obs H = ⟨sched T n.toNat, some (off T n.toNat, .noResp)⟩ := by
  rcases runObs_cases hT obs H ho with ⟨_, h, _⟩ | ⟨k, hk, _, hlt, _⟩ | ⟨hf, _⟩
  · exact h
  · have := off_le_budget hT hn hk; omega
  · exact hf.elim

theorem times_of_quiet {T n : Int} (hT : 0 < T) (hn : 0 ≤ n) (obs : List Obs) (H : Int) (hq : Quiet obs)
    (hH : off T n.toNat ≤ H) :
    runObs T n obs H = ⟨sched T n.toNat, some (off T n.toNat, .noResp)⟩ :=
  exhausted_of_inert hT hn obs H (quiet_inert hq) hH

theorem running_of_quiet {T n : Int} (hT : 0 < T) (obs : List Obs) (H : Int) (m : Nat) (hq : Quiet obs)
    (hobs : ∀ o ∈ obs, o.t ≤ H) (hm1 : off T m ≤ H) (hm2 : H < off T (m + 1)) (hmn : n < 0 ∨ (m : Int) < n) :
    runObs T n obs H = ⟨sched T (m + 1), none⟩ := by
  have h0 : 0 ≤ H := Int.le_trans (off_nonneg hT m) hm1
  rcases runObs_cases hT obs H (quiet_inert hq) with ⟨hn, _, h⟩ | ⟨k, _, h, hlt, hle⟩ | ⟨hf, _⟩
  · have := off_le_budget hT hn hmn; have := h hobs h0; omega
  · rw [h, try_unique hT (hle hobs h0) hlt hm1 hm2]
  · exact hf.elim

theorem quiet_ret {T n : Int} (hT : 0 < T) (obs : List Obs) (H : Int) (hq : Quiet obs) :
    (runObs T n obs H).ret = none ∨ ∃ t, (runObs T n obs H).ret = some (t, .noResp) := by
  rcases runObs_cases hT obs H (quiet_inert hq) with ⟨_, h, _⟩ | ⟨k, _, h, _⟩ | ⟨hf, _⟩
  · exact .inr ⟨_, by rw [h]⟩
  · exact .inl (by rw [h])
  · exact hf.elim

theorem quiet_then_terminal {T n : Int} (hT : 0 < T) (pre post : List Obs) (o : Obs) (H : Int) (m : Nat)
    (hq : Quiet pre) (ht : Terminal o) (hat : o.afterTimer = true) (hpre : ∀ p ∈ pre, p.t ≤ o.t)
    (hm1 : off T m ≤ o.t) (hm2 : o.t < off T (m + 1)) (hmn : n < 0 ∨ (m : Int) < n) :
    runObs T n (pre ++ o :: post) H = ⟨sched T (m + 1), some (o.t, terminalOutcome o)⟩ := by
  have h0 : 0 ≤ o.t := Int.le_trans (off_nonneg hT m) hm1
  rcases quiet_then_terminal_cases hT pre post o H (quiet_inert hq) ht h0 hpre with
    ⟨hn, hle, _⟩ | ⟨k, _, hk1, _, hk2, h⟩
  · have := off_le_budget hT hn hmn; omega
  · rw [h, try_unique hT hk1 (hk2 hat) hm1 hm2]

theorem result_shape {T n : Int} (hT : 0 < T) (obs : List Obs) (H : Int) :
    ∃ m, (runObs T n obs H).txs = sched T m ∧ (0 ≤ n → (m : Int) ≤ n) ∧
      (∀ t o, (runObs T n obs H).ret = some (t, o) → (∀ x ∈ sched T m, x ≤ t) ∧ (0 ≤ n → t ≤ off T n.toNat)) := by
  have hle : ∀ {m k : Nat} {x : Int}, x ∈ sched T m → m ≤ k + 1 → x ≤ off T k := fun hx hm => by
    obtain ⟨j, hj, rfl⟩ := mem_sched.1 hx
    exact off_mono hT (by omega)
  rcases runObs_cases (E := True) hT obs H (fun _ _ _ => .inl trivial) with
    ⟨hn, h, _⟩ | ⟨k, hk, h, _⟩ | ⟨_, k, t, o, hk, h, h1, h2⟩ <;> rw [h]
  · refine ⟨n.toNat, rfl, fun _ => by omega, fun t o he => ?_⟩
    injection he with he; injection he with he _; subst he
    exact ⟨fun x hx => hle hx (Nat.le_succ _), fun _ => Int.le_refl _⟩
  · exact ⟨k + 1, rfl, fun _ => by omega, fun t o he => by cases he⟩
  · refine ⟨k + 1, rfl, fun _ => by omega, fun t' o' he => ?_⟩
    injection he with he; injection he with he _; subst he
    exact ⟨fun x hx => Int.le_trans (hle hx (Nat.le_refl _)) h1, fun hn => Int.le_trans h2 (off_le_budget hT hn hk)⟩

theorem budget {T n : Int} (hT : 0 < T) (hn : 0 ≤ n) (obs : List Obs) (H : Int) (hH : off T n.toNat ≤ H) :
    ∃ t o, (runObs T n obs H).ret = some (t, o) ∧ t ≤ off T n.toNat := by
  rcases runObs_cases (E := True) hT obs H (fun _ _ _ => .inl trivial) with
    ⟨_, h, _⟩ | ⟨k, hk, _, hlt, _⟩ | ⟨_, k, t, o, hk, h, _, h2⟩
  · exact ⟨_, _, by rw [h], Int.le_refl _⟩
  · have := off_le_budget hT hn hk; omega
  · exact ⟨t, o, by rw [h], Int.le_trans h2 (off_le_budget hT hn hk)⟩

theorem mem_addNew {α} [DecidableEq α] (a b : α) (l : List α) : a ∈ addNew b l ↔ a = b ∨ a ∈ l := by
  unfold addNew
  split
  · next h => constructor
              · exact Or.inr
              · rintro (rfl | h') <;> assumption
  · simp

theorem mem_dedup {α} [DecidableEq α] (a : α) (l : List α) : a ∈ dedup l ↔ a ∈ l := by
  induction l with
  | nil => simp [dedup]
  | cons b l ih =>
    have : dedup (b :: l) = addNew b (dedup l) := rfl
    rw [this, mem_addNew, ih]; simp

/-- The observation sequences a list of groups allows from state `st`: one view
of each group, chosen among those the group has in the state reached so far. -/
inductive Paths (n : Int) : CState → List (Int × Bool × Group) → List Obs → Prop
  | nil {st : CState} : Paths n st [] []
  | cons {st : CState} {g : Int × Bool × Group} {gs : List (Int × Bool × Group)} {w v : List Obs} :
      w ∈ groupViews g.1 (g.2.1 && deadlineAt n st g.1) g.2.2 → Paths n (runFrom n st w) gs v →
      Paths n st (g :: gs) (w ++ v)

theorem mem_foldGroups (n : Int) (gs : List (Int × Bool × Group)) (sts : List CState) (s : CState) :
    s ∈ gs.foldl (fun sts (g : Int × Bool × Group) => stepGroup n g.1 g.2.1 g.2.2 sts) sts ↔
      ∃ st ∈ sts, ∃ v, Paths n st gs v ∧ s = runFrom n st v := by
  induction gs generalizing sts with
  | nil =>
    constructor
    · intro h; exact ⟨s, h, [], .nil, rfl⟩
    · rintro ⟨st, hst, v, hp, rfl⟩; cases hp; exact hst
  | cons g gs ih =>
    rw [List.foldl_cons, ih]
    simp only [stepGroup, mem_dedup, List.mem_flatMap, List.mem_map]
    constructor
    · rintro ⟨_, ⟨st, hst, w, hw, rfl⟩, v, hp, rfl⟩
      exact ⟨st, hst, w ++ v, .cons hw hp, (runFrom_append ..).symm⟩
    · rintro ⟨st, hst, _, hp, rfl⟩
      cases hp with
      | cons hw hp => exact ⟨_, ⟨st, hst, _, hw, rfl⟩, _, hp, runFrom_append ..⟩

theorem mem_runCall {T n : Int} {evs : List Event} {H : Int} {r : Result} :
    r ∈ runCall T n evs H ↔ ∃ v, Paths n (begin T n) (groups evs) v ∧ r = runObs T n v H := by
  unfold runCall runObs
  simp only [mem_dedup, List.mem_map, mem_foldGroups, List.mem_singleton]
  constructor
  · rintro ⟨_, ⟨_, rfl, v, hp, rfl⟩, rfl⟩; exact ⟨v, hp, rfl⟩
  · rintro ⟨v, hp, rfl⟩; exact ⟨_, ⟨_, rfl, v, hp, rfl⟩, rfl⟩

theorem runCall_sound (T n : Int) (evs : List Event) (H : Int) (r : Result) (h : r ∈ runCall T n evs H) :
    ∃ obs, r = runObs T n obs H := by
  obtain ⟨v, _, h⟩ := mem_runCall.1 h
  exact ⟨v, h⟩

theorem mem_insertions {α} (x : α) (l l' : List α) (h : l' ∈ insertions x l) : ∀ y ∈ l', y = x ∨ y ∈ l := by
  induction l generalizing l' with
  | nil => simp [insertions] at h; subst h; intro y hy; simp at hy; exact Or.inl hy
  | cons a t ih =>
    simp only [insertions, List.mem_cons, List.mem_map] at h
    rcases h with rfl | ⟨m, hm, rfl⟩
    · intro y hy; simp at hy; rcases hy with rfl | rfl | hy <;> simp [*]
    · intro y hy
      simp at hy
      rcases hy with rfl | hy
      · simp
      · rcases ih m hm y hy with rfl | h' <;> simp [*]

/-- What holds of every event (`P` of its kind, `Q` of "not applied at
quiescence") holds of every group (`P` of its members' kinds, `Q` of its race flag). -/
theorem groupsAux_forall (P : EvKind → Prop) (Q : Bool → Prop) (es : List Event) (clk : Int) (i : Nat)
    (cur : Option (Int × Bool × Group)) (hq : ∀ e ∈ es, P e.kind ∧ Q (!e.sync))
    (hc : ∀ c, cur = some c → Q c.2.1 ∧ ∀ x ∈ c.2.2, P x.2) :
    ∀ g ∈ groupsAux clk i es cur, Q g.2.1 ∧ ∀ x ∈ g.2.2, P x.2 := by
  have single : ∀ (e : Event) (t : Int) (i : Nat), P e.kind ∧ Q (!e.sync) →
      ∀ c, some (t, !e.sync, [(i, e.kind)]) = some c → Q c.2.1 ∧ ∀ x ∈ c.2.2, P x.2 := by
    rintro e t i he c ⟨⟩
    exact ⟨he.2, fun x hx => List.mem_singleton.1 hx ▸ he.1⟩
  fun_induction groupsAux clk i es cur with
  | case1 _ _ c => intro g hg; exact List.mem_singleton.1 hg ▸ hc c rfl
  | case2 => intro g hg; cases hg
  | case3 clk i e es _ t tg r gg _ ih =>
    refine ih (fun e' he' => hq e' (List.mem_cons_of_mem _ he')) ?_
    rintro c ⟨⟩
    refine ⟨(hc _ rfl).1, fun x hx => ?_⟩
    rcases List.mem_append.1 hx with h | h
    · exact (hc _ rfl).2 x h
    · exact (single e t i (hq e (List.mem_cons_self ..)) _ rfl).2 x h
  | case4 clk i e es _ t c _ ih =>
    intro g hg
    rcases List.mem_cons.1 hg with rfl | hg
    · exact hc _ rfl
    · exact ih (fun e' he' => hq e' (List.mem_cons_of_mem _ he')) (single e t i (hq e (List.mem_cons_self ..))) g hg
  | case5 clk i e es t ih =>
    exact ih (fun e' he' => hq e' (List.mem_cons_of_mem _ he')) (single e t i (hq e (List.mem_cons_self ..)))

theorem groups_arrivals (evs : List Event) (h : ∀ e ∈ evs, isArrival e.kind = true) :
    ∀ g ∈ groups evs, ∀ x ∈ g.2.2, isArrival x.2 = true := fun g hg =>
  (groupsAux_forall (isArrival · = true) (fun _ => True) evs 0 0 none (fun e he => ⟨h e he, trivial⟩)
    (by intro c hc; cases hc) g hg).2

theorem groups_sync (evs : List Event) (h : ∀ e ∈ evs, e.sync = true) : ∀ g ∈ groups evs, g.2.1 = false := fun g hg =>
  (groupsAux_forall (fun _ => True) (· = false) evs 0 0 none (fun e he => ⟨trivial, by simp [h e he]⟩)
    (by intro c hc; cases hc) g hg).1

theorem mergeOrders_arrivals (g : Group) (h : ∀ x ∈ g, isArrival x.2 = true) : mergeOrders g = [g] := by
  have hc : ∀ k, (k = EvKind.cancel ∨ k = EvKind.close) → g.find? (fun e => e.2 = k) = none := by
    intro k hk
    rw [List.find?_eq_none]
    intro e he
    have := h e he
    rcases hk with rfl | rfl <;> (intro hk'; simp at hk'; rw [hk'] at this; simp [isArrival] at this)
  unfold mergeOrders
  rw [hc _ (Or.inl rfl), hc _ (Or.inr rfl)]
  simp only
  rw [List.filter_eq_self.2 (fun x hx => h x hx)]

end Dhcp.Client.Timed

namespace Dhcp.Client.Refine
open Dhcp.Client.Timed

/-- How a view of a group may differ from the quiescent one, element by
element: same instant, same datagram; the kind unchanged or `irr` (the datagram
was lost in the hand-over between two tries); the flag is free. -/
inductive WeakV : List Obs → List Obs → Prop
  | nil : WeakV [] []
  | cons {o o0 : Obs} {v v0 : List Obs} : o.t = o0.t → o.tag = o0.tag → (o.kind = o0.kind ∨ o.kind = .irr) →
      WeakV v v0 → WeakV (o :: v) (o0 :: v0)

theorem WeakV.append {a a0 b b0 : List Obs} (h1 : WeakV a a0) (h2 : WeakV b b0) : WeakV (a ++ b) (a0 ++ b0) := by
  induction h1 with
  | nil => exact h2
  | cons ht hg hk _ ih => exact WeakV.cons ht hg hk ih

theorem weakV_toObs_same (t : Int) (a : Bool) (l : Group) : WeakV (toObs t a l) (toObs t true l) := by
  induction l with
  | nil => exact WeakV.nil
  | cons e l ih => exact WeakV.cons rfl rfl (Or.inl rfl) ih

theorem weakV_lose (t : Int) (a : Bool) (l : Group) (j : Nat) : WeakV (toObs t a (lose j l)) (toObs t true l) := by
  induction l generalizing j with
  | nil => cases j <;> exact WeakV.nil
  | cons e l ih =>
    cases j with
    | zero => exact weakV_toObs_same t a (e :: l)
    | succ j =>
      obtain ⟨i, k⟩ := e
      simp only [lose]
      split
      · exact WeakV.cons rfl rfl (Or.inr rfl) (ih j)
      · exact WeakV.cons rfl rfl (Or.inl rfl) (ih (j + 1))

theorem groupViews_arrivals (t : Int) (b : Bool) (g : Group) (h : ∀ x ∈ g, isArrival x.2 = true) :
    ∀ w ∈ groupViews t b g, WeakV w (toObs t true g) ∧ (b = false → w = toObs t true g) := by
  intro w hw
  unfold groupViews at hw
  rw [mergeOrders_arrivals g h] at hw
  cases b with
  | false =>
    simp at hw
    exact ⟨hw ▸ weakV_toObs_same t true g, fun _ => hw⟩
  | true =>
    simp only [if_true, List.flatMap_cons, List.flatMap_nil, List.append_nil, List.mem_flatMap, List.mem_map] at hw
    obtain ⟨p, _, j, _, rfl⟩ := hw
    refine ⟨?_, fun h => by cases h⟩
    have : toObs t true g = toObs t true (g.take p) ++ toObs t true (g.drop p) := by
      simp only [toObs, ← List.map_append, List.take_append_drop]
    rw [this]
    exact WeakV.append (weakV_toObs_same t false _) (weakV_lose t true _ j)

theorem WeakV.quiet {w w0 : List Obs} (h : WeakV w w0) (hq : Quiet w0) : Quiet w := by
  induction h with
  | nil => exact hq
  | @cons o o0 _ _ _ _ hk _ ih =>
    intro x hx
    rcases List.mem_cons.1 hx with rfl | hx
    · rcases hk with hk | hk
      · rw [hk]; exact hq o0 (List.mem_cons_self ..)
      · exact .inl hk
    · exact ih (fun y hy => hq y (List.mem_cons_of_mem _ hy)) x hx

end Dhcp.Client.Refine

namespace Dhcp.Client.Timed
open Dhcp.Client.Refine

theorem Paths.quiet {n : Int} {st : CState} {gs : List (Int × Bool × Group)} {v : List Obs} (h : Paths n st gs v)
    (hq : ∀ g ∈ gs, ∀ x ∈ g.2.2, x.2 = .irr ∨ x.2 = .rej) : Quiet v := by
  induction h with
  | nil => intro o ho; cases ho
  | @cons st g gs w v hw _ ih =>
    have hg := hq g (List.mem_cons_self ..)
    have hw := (groupViews_arrivals _ _ _ (fun x hx => by rcases hg x hx with h | h <;> rw [h] <;> rfl) w hw).1.quiet
      (fun o ho => by
        simp only [toObs, List.mem_map] at ho
        obtain ⟨e, he, rfl⟩ := ho
        rcases hg e he with h | h <;> simp [obsKind, h])
    intro o ho
    rcases List.mem_append.1 ho with h | h
    · exact hw o h
    · exact ih (fun g' hg' => hq g' (List.mem_cons_of_mem _ hg')) o h

theorem runCall_quiet_sound (T n : Int) (evs : List Event) (H : Int) (hq : ∀ e ∈ evs, e.kind = .irr ∨ e.kind = .rej)
    (r : Result) (h : r ∈ runCall T n evs H) : ∃ obs, Quiet obs ∧ r = runObs T n obs H := by
  obtain ⟨v, hp, h⟩ := mem_runCall.1 h
  refine ⟨v, hp.quiet fun g hg => ?_, h⟩
  exact (groupsAux_forall (fun k => k = .irr ∨ k = .rej) (fun _ => True) evs 0 0 none (fun e he => ⟨hq e he, trivial⟩)
    (by intro c hc; cases hc) g hg).2

end Dhcp.Client.Timed
