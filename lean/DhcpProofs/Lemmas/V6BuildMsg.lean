import DhcpProofs.Lemmas.V6Build
/- Helper lemmas for C16: what `Options.Get / Update / Del` do to an option list,
typedness of the identity-association codes (what the unchecked assertions of
`MessageOptions.IANA / IATA / IAPD` need), `Msg6.withOpts`, and the modifier lists:
`applyMods` on `[]` and `++`, and the `switch` of `NewReplyFromMessage` (`replyMods_*`). -/
namespace Dhcp.V6

theorem Res.bind_ok' {α : Type} (r : Res α) : r.bind Res.ok = r := by cases r <;> rfl

theorem Res.bind_assoc' {α β γ : Type} (r : Res α) (f : α → Res β) (g : β → Res γ) :
    (r.bind f).bind g = r.bind (fun a => (f a).bind g) := by cases r <;> rfl

@[simp] theorem get_nil (c : Nat) : get c [] = [] := rfl

theorem get_head? (c : Nat) (os : List Opt6) : (get c os).head? = getOne c os := by
  unfold get getOne
  exact List.head?_filter ..

theorem get_cons (c : Nat) (o : Opt6) (os : List Opt6) :
    get c (o :: os) = if o.code = c then o :: get c os else get c os := by
  by_cases h : o.code = c <;> simp [get, h]

theorem get_append (c : Nat) (xs ys : List Opt6) : get c (xs ++ ys) = get c xs ++ get c ys :=
  List.filter_append ..

theorem get_eq_nil_of {c : Nat} {os : List Opt6} (h : ∀ y ∈ os, y.code ≠ c) : get c os = [] := by
  simpa [get] using h

theorem update_of_getOne_none {o : Opt6} {os : List Opt6} (h : getOne o.code os = none) :
    update o os = os ++ [o] := by
  induction os with
  | nil => rfl
  | cons x xs ih =>
    rw [getOne_cons] at h
    by_cases hx : x.code = o.code
    · simp [hx] at h
    · simp only [hx, if_false] at h
      simp [update, hx, ih h]

theorem update_split {o x : Opt6} {pre post : List Opt6}
    (hpre : ∀ y ∈ pre, y.code ≠ o.code) (hx : x.code = o.code) :
    update o (pre ++ x :: post) = pre ++ o :: post := by
  induction pre with
  | nil => simp [update, hx]
  | cons y ys ih =>
    have hy : y.code ≠ o.code := hpre y (List.mem_cons_self ..)
    simp only [List.cons_append, update]
    rw [if_neg (by simpa using hy), ih (fun z hz => hpre z (List.mem_cons_of_mem _ hz))]

theorem update_cases (o : Opt6) (os : List Opt6) :
    (getOne o.code os = none ∧ (∀ y ∈ os, y.code ≠ o.code) ∧ update o os = os ++ [o]) ∨
    ∃ pre x post, getOne o.code os = some x ∧ os = pre ++ x :: post ∧ (∀ y ∈ pre, y.code ≠ o.code) ∧
      x.code = o.code ∧ update o os = pre ++ o :: post := by
  cases h : getOne o.code os with
  | none => exact .inl ⟨rfl, getOne_eq_none_iff.mp h, update_of_getOne_none h⟩
  | some x =>
    obtain ⟨hx, pre, post, rfl, hpre⟩ := getOne_eq_some_iff.mp h
    exact .inr ⟨pre, x, post, rfl, rfl, hpre, hx, update_split hpre hx⟩

theorem getOne_update_self (o : Opt6) (os : List Opt6) : getOne o.code (update o os) = some o := by
  rcases update_cases o os with ⟨_, hn, e⟩ | ⟨pre, x, post, _, _, hpre, _, e⟩ <;> rw [e]
  · exact getOne_split hn rfl
  · exact getOne_split hpre rfl

theorem get_update_other {c : Nat} (o : Opt6) (os : List Opt6) (hc : o.code ≠ c) :
    get c (update o os) = get c os := by
  rcases update_cases o os with ⟨_, _, e⟩ | ⟨pre, x, post, _, rfl, _, hx, e⟩ <;> rw [e]
  · simp [get_append, get_cons, hc]
  · simp [get_append, get_cons, hc, hx]

theorem getOne_update_other {c : Nat} (o : Opt6) (os : List Opt6) (hc : o.code ≠ c) :
    getOne c (update o os) = getOne c os := by
  rw [← get_head?, ← get_head?, get_update_other o os hc]

/-- the options carrying the updated code afterwards: the new one in first
place, every LATER option of that code kept -/
theorem get_update_self (o : Opt6) (os : List Opt6) :
    get o.code (update o os) = o :: (get o.code os).tail := by
  rcases update_cases o os with ⟨_, hn, e⟩ | ⟨pre, x, post, _, rfl, hpre, hx, e⟩ <;> rw [e]
  · simp [get_append, get_eq_nil_of hn, get_cons]
  · simp [get_append, get_eq_nil_of hpre, get_cons, hx]

theorem update_length (o : Opt6) (os : List Opt6) :
    (update o os).length = if (getOne o.code os).isSome then os.length else os.length + 1 := by
  rcases update_cases o os with ⟨h, _, e⟩ | ⟨pre, x, post, h, rfl, _, _, e⟩ <;> rw [e, h] <;> simp

theorem mem_del {c : Nat} {os : List Opt6} {o : Opt6} : o ∈ del c os ↔ o ∈ os ∧ o.code ≠ c := by
  simp [del]

theorem get_del_self (c : Nat) (os : List Opt6) : get c (del c os) = [] :=
  get_eq_nil_of (fun _ hy => (mem_del.mp hy).2)

theorem get_del_other {c d : Nat} (os : List Opt6) (h : d ≠ c) : get d (del c os) = get d os := by
  unfold get del
  rw [List.filter_filter]
  apply List.filter_congr
  intro o _
  by_cases ho : o.code = d <;> simp [ho, h]

theorem del_sublist (c : Nat) (os : List Opt6) : (del c os).Sublist os := List.filter_sublist

theorem del_of_absent {c : Nat} {os : List Opt6} (h : getOne c os = none) : del c os = os := by
  simpa [del, getOne] using h

def Msg6.withOpts : Msg6 → List Opt6 → Msg6
  | .relay t h l p _, os => .relay t h l p os
  | .msg t x _, os => .msg t x os

theorem updateOption_eq (m : Msg6) (o : Opt6) : m.updateOption o = m.withOpts (update o m.opts) := by
  cases m <;> rfl

theorem addOption_eq (m : Msg6) (o : Opt6) : m.addOption o = m.withOpts (m.opts ++ [o]) := by
  cases m <;> rfl

theorem delOption_eq (m : Msg6) (c : Nat) : m.delOption c = m.withOpts (del c m.opts) := by
  cases m <;> rfl

@[simp] theorem withOpts_opts (m : Msg6) (os : List Opt6) : (m.withOpts os).opts = os := by
  cases m <;> rfl

@[simp] theorem withOpts_typ (m : Msg6) (os : List Opt6) : (m.withOpts os).typ = m.typ := by
  cases m <;> rfl

@[simp] theorem withOpts_isRelay (m : Msg6) (os : List Opt6) : (m.withOpts os).isRelay = m.isRelay := by
  cases m <;> rfl

/-- every option carrying code `c` has the dynamic type `p` tests for -/
def CodeTyped (c : Nat) (p : Opt6 → Bool) (os : List Opt6) : Prop := ∀ o ∈ os, o.code = c → p o = true

/-- every option carrying the IA_NA code is an `*OptIANA` (what decoding guarantees) -/
def IANATyped (os : List Opt6) : Prop := ∀ o ∈ os, o.code = ocIANA → o.isIANA = true

theorem all_get_iff (c : Nat) (p : Opt6 → Bool) (os : List Opt6) :
    (get c os).all p = true ↔ CodeTyped c p os := by
  simp only [CodeTyped, List.all_eq_true, mem_get, and_imp]

theorem CodeTyped_split {c : Nat} {p : Opt6 → Bool} {pre post : List Opt6} {x : Opt6}
    (h : CodeTyped c p (pre ++ x :: post)) : p x = true ∨ x.code ≠ c := by
  by_cases hx : x.code = c
  · exact .inl (h x (by simp) hx)
  · exact .inr hx

/-- The common body of `MessageOptions.OneIANA / OneIATA / OneIAPD`: all options
of the code, each asserted without a check to have the code's own type, then the
first of them.  With the assertions true it is `GetOne`. -/
theorem oneOf_typed {c : Nat} {p : Opt6 → Bool} {os : List Opt6} (h : CodeTyped c p os) :
    (if (get c os).all p then Res.ok (get c os) else .panic).map List.head? = .ok (getOne c os) := by
  simp [(all_get_iff c p os).mpr h, Res.map, Res.bind, get_head?]

theorem oneOf_untyped {c : Nat} {p : Opt6 → Bool} {os : List Opt6} (h : ¬ CodeTyped c p os) :
    (if (get c os).all p then Res.ok (get c os) else .panic).map List.head? = .panic := by
  simp [mt (all_get_iff c p os).mp h, Res.map, Res.bind]

theorem oneIANAOf_typed {os : List Opt6} (h : IANATyped os) : oneIANAOf os = .ok (getOne ocIANA os) :=
  oneOf_typed h
theorem oneIANAOf_untyped {os : List Opt6} (h : ¬ IANATyped os) : oneIANAOf os = .panic :=
  oneOf_untyped h
theorem oneIATAOf_typed {os : List Opt6} (h : CodeTyped ocIATA Opt6.isIATA os) :
    oneIATAOf os = .ok (getOne ocIATA os) :=
  oneOf_typed h
theorem oneIATAOf_untyped {os : List Opt6} (h : ¬ CodeTyped ocIATA Opt6.isIATA os) : oneIATAOf os = .panic :=
  oneOf_untyped h
theorem oneIAPDOf_typed {os : List Opt6} (h : CodeTyped ocIAPD Opt6.isIAPD os) :
    oneIAPDOf os = .ok (getOne ocIAPD os) :=
  oneOf_typed h
theorem oneIAPDOf_untyped {os : List Opt6} (h : ¬ CodeTyped ocIAPD Opt6.isIAPD os) : oneIAPDOf os = .panic :=
  oneOf_untyped h

theorem oneIANAOf_ne_err (os : List Opt6) : oneIANAOf os ≠ .err := by
  unfold oneIANAOf ianasOf
  simp only [Res.map]
  split <;> simp [Res.bind]

@[simp] theorem applyMods_nil (m : Msg6) : applyMods m [] = .ok m := rfl

theorem applyMods_append (m : Msg6) (a b : List Mod6) :
    applyMods m (a ++ b) = (applyMods m a).bind (fun m' => applyMods m' b) := by
  induction a generalizing m with
  | nil => rfl
  | cons x xs ih =>
    simp only [List.cons_append, applyMods]
    rw [Res.bind_assoc']
    congr 1
    funext m'
    exact ih m'

theorem replyMods_solicit (os : List Opt6) (mods : List Mod6) :
    replyMods mtSolicit os mods =
      if (getOne ocRapidCommit os).isNone then none else some (Mod6.rapidCommit :: mods) := rfl

theorem replyMods_replyable {t : UInt8} (ht : replyableTypes.contains t = true) (os : List Opt6)
    (mods : List Mod6) : replyMods t os mods = some mods := by
  have hns : t ≠ mtSolicit := by intro h; subst h; revert ht; decide
  rw [replyMods, if_neg hns, if_pos ht]

theorem replyMods_other {t : UInt8} (h1 : t ≠ mtSolicit) (h2 : replyableTypes.contains t = false)
    (os : List Opt6) (mods : List Mod6) : replyMods t os mods = none := by
  rw [replyMods, if_neg h1, h2]; rfl

theorem replyMods_nil (t : UInt8) (os : List Opt6) :
    replyMods t os [] = none ∨ replyMods t os [] = some [] ∨ replyMods t os [] = some [.rapidCommit] := by
  unfold replyMods
  split <;> split <;> simp

theorem replyMods_append (t : UInt8) (os : List Opt6) (mods : List Mod6) :
    replyMods t os mods = (replyMods t os []).map (· ++ mods) := by
  unfold replyMods
  split
  · split <;> rfl
  · split <;> rfl

end Dhcp.V6
