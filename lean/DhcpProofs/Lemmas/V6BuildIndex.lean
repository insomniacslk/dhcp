import DhcpProofs.Lemmas.V6BuildChain
/- Helper lemmas for C16: `EncapsulateRelay`, the n-fold encapsulation `wrapAll` and
`DecapsulateRelayIndex` on it. -/
namespace Dhcp.Spec
open Dhcp.V6

/-- the hop count `EncapsulateRelay` gives the relay header it puts around a message -/
def hopsFor : Msg6 → UInt8
  | .relay _ h _ _ _ => h + 1
  | .msg .. => 0

theorem encapsulateRelay_ok {d : Msg6} {t : UInt8} (l p : IP) (ht : isRelayType t = true) :
    encapsulateRelay d t l p = .ok (.relay t (hopsFor d) l p [.relayMsg d]) := by
  unfold encapsulateRelay hopsFor
  simp only [ht, if_true]
  cases d <;> rfl

theorem encapsulateRelay_err {d : Msg6} {t : UInt8} (l p : IP) (ht : isRelayType t = false) :
    encapsulateRelay d t l p = .err := by
  unfold encapsulateRelay
  simp [ht]

theorem UInt8.ofNat_succ (n : Nat) : UInt8.ofNat n + 1 = UInt8.ofNat (n + 1) := (UInt8.ofNat_add n 1).symm

/-- the value `encapAll` computes when every header has a relay type -/
def wrapAll (m : Msg6) : List Hdr → Msg6
  | [] => m
  | h :: rest => .relay h.typ (hopsFor (wrapAll m rest)) h.link h.peer [.relayMsg (wrapAll m rest)]

theorem encapAll_eq_wrapAll (m : Msg6) : ∀ hs : List Hdr, (∀ x ∈ hs, isRelayType x.typ = true) →
    encapAll m hs = .ok (wrapAll m hs) := by
  intro hs
  induction hs with
  | nil => intro _; rfl
  | cons h rest ih =>
    intro ht
    rw [encapAll, ih (fun x hx => ht x (List.mem_cons_of_mem _ hx))]
    simp only [Res.bind]
    rw [encapsulateRelay_ok _ _ (ht h List.mem_cons_self)]
    rfl

theorem hopsFor_wrapAll (m : Msg6) (hm : m.isRelay = false) : ∀ hs : List Hdr,
    hopsFor (wrapAll m hs) = UInt8.ofNat hs.length := by
  intro hs
  induction hs with
  | nil =>
    obtain ⟨t, x, os, rfl⟩ := not_isRelay_iff.mp hm
    rfl
  | cons h rest ih =>
    show hopsFor (wrapAll m rest) + 1 = _
    rw [ih, UInt8.ofNat_succ, List.length_cons]

theorem wrapAll_chain (m : Msg6) (hm : m.isRelay = false) : ∀ (rest : List Hdr) (h : Hdr),
    ∃ lv, Chain (wrapAll m (h :: rest)) lv m := by
  intro rest
  induction rest with
  | nil => exact fun h => ⟨_, .last (relayMessageOf_cons_relayMsg m []) hm⟩
  | cons h' rest ih =>
    intro h
    obtain ⟨lv, hc⟩ := ih h'
    exact ⟨_, .cons (relayMessageOf_cons_relayMsg _ []) hc⟩

theorem decapN_wrapAll (m : Msg6) (hm : m.isRelay = false) : ∀ (k : Nat) (hs : List Hdr),
    decapN k (wrapAll m hs) = .ok (wrapAll m (hs.drop k))
  | 0, _ => rfl
  | k + 1, [] => decapN_msg hm (k + 1)
  | k + 1, h :: rest => by
    simp only [decapN, wrapAll, decapsulateRelay, relayMessageOf_cons_relayMsg, Res.bind, List.drop_succ_cons]
    exact decapN_wrapAll m hm k rest

theorem wrapAll_isRelay (m : Msg6) (h : Hdr) (rest : List Hdr) : (wrapAll m (h :: rest)).isRelay = true := rfl

theorem msgDepth_wrapAll (m : Msg6) (hm : m.isRelay = false) : ∀ hs : List Hdr, msgDepth (wrapAll m hs) = hs.length := by
  intro hs
  induction hs with
  | nil =>
    obtain ⟨t, x, os, rfl⟩ := not_isRelay_iff.mp hm
    simp [wrapAll, msgDepth]
  | cons h rest ih => simp [wrapAll, msgDepth, optsDepth, optDepth, ih]

theorem lastRelay_wrapAll (m : Msg6) (hm : m.isRelay = false) : ∀ (rest : List Hdr) (h : Hdr) (fuel : Nat),
    rest.length < fuel →
    lastRelay fuel (wrapAll m (h :: rest)) = .ok (wrapAll m [(h :: rest).getLast (by simp)])
  | _, _, 0, hf => by cases hf
  | [], h, f + 1, _ => by simp [lastRelay, wrapAll, decapsulateRelay, hm]
  | h' :: rest, h, f + 1, hf => by
    rw [wrapAll, lastRelay]
    simp only [decapsulateRelay, relayMessageOf_cons_relayMsg, wrapAll_isRelay, if_true]
    rw [lastRelay_wrapAll m hm rest h' f (Nat.lt_of_succ_lt_succ hf), List.getLast_cons_cons]

end Dhcp.Spec
