import DhcpProofs.Lemmas.RawWrite
/-
  Both checksums of the emitted frame verify under the specification
  (RFC 1071 sum, RFC 791 header, RFC 768 pseudo header): each field holds the
  complement of a running sum that represents (`Rep`) the integer sum of the
  words a receiver adds to it.
-/
namespace Dhcp.Raw
open Dhcp.Spec.Inet

theorem ipBytes_to4_length (ip : GoIP) : (ipBytes (to4 ip)).length ≤ 65536 := by
  cases h : to4 ip with
  | none => simp [ipBytes]
  | some a => simp [ipBytes, to4_length h]

theorem wordSum_ipHdr (tl ck : Nat) {s : Bytes} (d : Bytes) (hs : s.length = 4) :
    wordSum (ipHdr tl ck s d) = 0x4500 + tl % 65536 + 0x4011 + ck % 65536 + wordSum s + wordSum d := by
  simp [ipHdr, wordSum_cons_cons, wordSum_be16_append, wordSum_append_even s d (by omega)]
  omega

theorem frameOf_ipck (p : Bytes) (dst src : Addr) (hp : 28 + p.length ≤ 65535) :
    IPHeaderVerifies (frameOf p dst src) := by
  obtain ⟨_, _, h20, _⟩ := frameOf_fields p dst src hp
  have hs := hdrAddr_length src.ip
  have rep : Rep (ipAcc p dst src) _ :=
    checksum_rep (ipHdr (u16 (28 + p.length)) 0 (hdrAddr src.ip) (hdrAddr dst.ip)) Rep.zero
      (by simp [ipHdr, hdrAddr_length])
  rw [IPHeaderVerifies, h20, frameOf, List.append_assoc, List.take_left' (by simp [ipHdr, hdrAddr_length])]
  refine rep.verifies (words_lt _) ?_
  have := Nat.mod_eq_of_lt (compl16_lt (ipAcc p dst src))
  simp only [Nat.zero_add, sum_words, wordSum_ipHdr _ _ _ hs]
  omega

/-- integer sum of the words a receiver adds up besides the checksum field: pseudo header
(addresses, protocol, UDP length), UDP header, data -/
def udpTotal (p : Bytes) (dst src : Addr) : Nat :=
  wordSum (hdrAddr src.ip) + wordSum (hdrAddr dst.ip) + 17 + wordSum p + (8 + p.length) +
    (u16 src.port + u16 dst.port + (8 + p.length))

theorem wordSum_udpHdr (sp dp ul ck : Nat) (r : Bytes) :
    wordSum (udpHdr sp dp ul ck ++ r) = sp % 65536 + dp % 65536 + ul % 65536 + ck % 65536 + wordSum r := by
  simp [udpHdr, wordSum_be16_append]
  omega

theorem udp_rep (p : Bytes) (dst src : Addr) (hp : 28 + p.length ≤ 65535) :
    Rep (udpAcc p dst src) (udpTotal p dst src) := by
  have t : u16 (8 + p.length) = 8 + p.length := by simp only [u16]; omega
  have x1 := checksum_rep (ipBytes (to4 src.ip)) Rep.zero (ipBytes_to4_length _)
  have x2 := checksum_rep (ipBytes (to4 dst.ip)) x1 (ipBytes_to4_length _)
  have x3 := checksum_rep [0, UInt8.ofNat (u8 17)] x2 (by simp)
  have x4 := checksum_rep p x3 (by omega)
  have x5 := checksum_rep (be16 (u16 (8 + p.length))) x4 (by simp)
  have x6 := checksum_rep (udpHdr (u16 src.port) (u16 dst.port) (u16 (8 + p.length)) 0) x5 (by simp [udpHdr])
  have e17 : wordSum [0, UInt8.ofNat (u8 17)] = 17 := by simp [wordSum, words, u8]
  have eU := wordSum_udpHdr (u16 src.port) (u16 dst.port) (u16 (8 + p.length)) 0 []
  rw [List.append_nil, Nat.mod_eq_of_lt (u16_lt _), Nat.mod_eq_of_lt (u16_lt _), Nat.mod_eq_of_lt (u16_lt _)] at eU
  rw [e17, wordSum_be16 (u16_lt _), eU, t, ← wordSum_hdrAddr, ← wordSum_hdrAddr] at x6
  simpa [udpAcc, udpTotal, pseudoHeaderchecksum, t, wordSum, words] using x6

theorem frameOf_pseudo_sum (p : Bytes) (dst src : Addr) (hp : 28 + p.length ≤ 65535) :
    (pseudoWords (frameOf p dst src)).sum + wordSum (ipPayload (frameOf p dst src)) =
      udpTotal p dst src + compl16 (udpAcc p dst src) := by
  obtain ⟨_, _, _, _, _, _, _, _, h17, _, hsrc, hdst⟩ := frameOf_fields p dst src hp
  obtain ⟨_, _, hul, _, _⟩ := frameOf_udp p dst src hp
  have a := u16_lt src.port
  have b := u16_lt dst.port
  have c := compl16_lt (udpAcc p dst src)
  rw [pseudoWords, h17, hul, hsrc, hdst, frameOf_ipPayload p dst src hp, wordSum_udpHdr]
  simp only [List.sum_append, sum_words, udpTotal, List.sum_cons, List.sum_nil]
  omega

theorem pseudoWords_lt (f : Bytes) (h : udpLen f < 65536) : ∀ w ∈ pseudoWords f ++ words (ipPayload f), w < 65536 := by
  intro w hw
  have hp : proto f < 65536 := by
    have := (f.getD 9 0).toNat_lt; simp only [proto, byteAt]; omega
  simp only [pseudoWords, List.mem_append, List.mem_cons, List.mem_nil_iff, or_false] at hw
  rcases hw with ((hw | hw) | (hw | hw)) | hw
  · exact words_lt _ w hw
  · exact words_lt _ w hw
  · omega
  · omega
  · exact words_lt _ w hw

theorem frameOf_udpck (p : Bytes) (dst src : Addr) (hp : 28 + p.length ≤ 65535) :
    UDPSumVerifies (frameOf p dst src) := by
  obtain ⟨_, _, hul, _, _⟩ := frameOf_udp p dst src hp
  refine (udp_rep p dst src hp).verifies (pseudoWords_lt _ (by omega)) ?_
  rw [List.sum_append]
  exact frameOf_pseudo_sum p dst src hp

end Dhcp.Raw
