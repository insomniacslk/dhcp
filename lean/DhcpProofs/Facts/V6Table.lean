import Dhcp.Gen.Extracted
import Dhcp.V6.Types
/-
  Fact obligations for the DHCPv6 codec: the `ParseOption` switch, the NTP
  sub-option switch and the DUID switch of /repo's working tree dispatch
  exactly the codes the model has constructors for, to the Go types the model's
  constructors stand for.  A new option type in the switch without a model
  constructor (or a code moved to another type) fails here.
-/
namespace Dhcp.Facts.V6Table

/-- Go type each `Opt6` constructor models, by code (65536 marks `default`) -/
def modelled : List (Nat × String) :=
  [(1, "optClientID"), (2, "optServerID"), (3, "OptIANA"), (4, "OptIATA"), (5, "OptIAAddress"),
   (6, "optRequestedOption"), (8, "optElapsedTime"), (9, "optRelayMsg"), (13, "OptStatusCode"),
   (15, "OptUserClass"), (16, "OptVendorClass"), (17, "OptVendorOpts"), (18, "optInterfaceID"),
   (23, "optDNS"), (24, "optDomainSearchList"), (25, "OptIAPD"), (26, "OptIAPrefix"),
   (32, "optInformationRefreshTime"), (37, "OptRemoteID"), (39, "OptFQDN"), (56, "OptNTPServer"),
   (59, "optBootFileURL"), (60, "optBootFileParam"), (61, "optClientArchType"),
   (62, "OptNetworkInterfaceID"), (79, "optClientLinkLayerAddress"), (87, "OptDHCPv4Msg"),
   (88, "OptDHCP4oDHCP6Server"), (97, "Opt4RD"), (98, "Opt4RDMapRule"), (99, "Opt4RDNonMapRule"),
   (135, "optRelayPort"), (65536, "OptionGeneric")]

theorem fact_parseOptionTable : Gen.parseOptionTable = some modelled := by decide
theorem fact_knownCodes : (modelled.map (·.1)).filter (· < 65536) = V6.knownCodes := by decide
theorem fact_ntpTable : Gen.ntpSuboptionTable =
    some [(1, "NTPSuboptionSrvAddr"), (2, "NTPSuboptionMCAddr"), (3, "NTPSuboptionSrvFQDN"),
          (65536, "OptionGeneric")] := by decide
theorem fact_duidTable : Gen.duidTable =
    some [(1, "DUIDLLT"), (2, "DUIDEN"), (3, "DUIDLL"), (4, "DUIDUUID"), (65536, "DUIDOpaque")] := by decide
theorem fact_relayTypes : Gen.msgTypeRelayForward = some V6.relayForward.toNat ∧
    Gen.msgTypeRelayReply = some V6.relayReply.toNat ∧ Gen.relayHeaderSize = some 34 := by decide
theorem fact_iaprefixMaxLen : Gen.iaprefixMaxLen = some 128 ∧ Gen.iaprefixMaxLen_op = some 4 := by decide
theorem fact_optsLoopHas : Gen.optsLoopHas6 = some 4 := by decide

end Dhcp.Facts.V6Table
