import Dhcp.Gen.Extracted
import Dhcp.V4.Packet
/-
  Fact obligations (regenerated tie): the constants the DHCPv4 codec model and
  its theorems were written for are the ones /repo's working tree has now.
  `Dhcp.Gen.*` is regenerated by /verif/extract on every check run.
-/
namespace Dhcp.Facts.V4Codec

theorem fact_chunkMax : Gen.chunkMax = some V4.chunkMax ∧ Gen.chunkMax_op = some 4 := by decide
theorem fact_bootpMinLen : Gen.bootpMinLen = some V4.bootpMinLen := by decide
theorem fact_padTo : Gen.padTo = some V4.bootpMinLen ∧ Gen.padTo_op = some 2 := by decide
theorem fact_magicCookie : Gen.magicCookie = some (V4.magicCookie.map UInt8.toNat) := by decide
theorem fact_optPad : Gen.optPad = some V4.optPad.toNat := by decide
theorem fact_optEnd : Gen.optEnd = some V4.optEnd.toNat := by decide
theorem fact_optAgentInfo : Gen.optAgentInfo = some V4.optAgentInfo.toNat := by decide
theorem fact_snameCap : Gen.snameCap = some V4.snameCap ∧ Gen.snameCopyLimit = some (V4.snameCap - 1) := by decide
theorem fact_fileCap : Gen.fileCap = some V4.fileCap ∧ Gen.fileCopyLimit = some (V4.fileCap - 1) := by decide
theorem fact_hlenClamp : Gen.hlenClamp = some V4.chaddrLen ∧ Gen.hlenClamp_op = some 4 := by decide
theorem fact_optsLoopMin : Gen.optsLoopMin = some 1 ∧ Gen.optsLoopMin_op = some 5 := by decide

/-- the shape of `Options.sortedKeys` / `Options.Marshal` that `sortedKeysFrom`
models and `C07_map_order_irrelevant` relies on: ONE range loop over the map that
leaves out exactly the codes 82 and 255, a sort call on the collected codes
between that loop and the appends, 82 and then 255 appended after it; `Marshal`
ranges over `o.sortedKeys()` and over nothing else -/
theorem fact_sortedKeys_shape :
    Gen.sortedKeys_sorts = some true ∧
    Gen.sortedKeys_skips = some [V4.optAgentInfo.toNat, V4.optEnd.toNat] ∧
    Gen.sortedKeys_appends = some [V4.optAgentInfo.toNat, V4.optEnd.toNat] ∧
    Gen.marshal_ranges_sortedKeys = some true := by decide

end Dhcp.Facts.V4Codec
