import Dhcp.Gen.Extracted
import Dhcp.Client.Timed
/-
  Fact obligations (regenerated tie) for the client models (C10, C11, C12):
  what the timed model and the LTS hard-code about nclient4 / nclient6 is what
  /repo's working tree says now. `Dhcp.Gen.*` is regenerated on every check.
  Operator codes: comparison 2 = `<`; assignment 1 = `*=`.
-/
namespace Dhcp.Facts.Client
open Dhcp.Client

/-- `timeout *= 2` (both clients): the doubling of `Timed.fire`. -/
theorem fact_backoff4 : Gen.nclient4_backoff_mul = some Timed.backoffMul.toNat ∧ Gen.nclient4_backoff_op = some 1 := by decide
theorem fact_backoff6 : Gen.nclient6_backoff_mul = some Timed.backoffMul.toNat ∧ Gen.nclient6_backoff_op = some 1 := by decide

/-- `for i := 0; i < c.retry || c.retry < 0; i++`: the loop condition of `Timed.begin` / `Timed.fire`. -/
theorem fact_retry_loop4 : Gen.nclient4_retry_init = some 0 ∧ Gen.nclient4_retry_cond_op = some 2 ∧
    Gen.nclient4_retry_neg_op = some 2 ∧ Gen.nclient4_retry_neg_const = some 0 := by decide
theorem fact_retry_loop6 : Gen.nclient6_retry_init = some 0 ∧ Gen.nclient6_retry_cond_op = some 2 ∧
    Gen.nclient6_retry_neg_op = some 2 ∧ Gen.nclient6_retry_neg_const = some 0 := by decide

/-- defaults: 5 s, 3 tries, 5 buffered responses per transaction. -/
theorem fact_defaults4 : Gen.nclient4_default_timeout = some Timed.defaultTimeoutNs ∧
    Gen.nclient4_default_retry = some Timed.defaultRetries ∧
    Gen.nclient4_default_bufferCap = some Timed.defaultBufferCap := by decide
theorem fact_defaults6 : Gen.nclient6_default_timeout = some Timed.defaultTimeoutNs ∧
    Gen.nclient6_default_retry = some Timed.defaultRetries ∧
    Gen.nclient6_default_bufferCap = some Timed.defaultBufferCap := by decide

/-- the per-try deadline is armed once per try, outside the wait loop (the
timed model fires it at `start + timeout` whatever is received meanwhile). -/
theorem fact_deadline_once4 : Gen.nclient4_deadline_armed_once = some true := by decide
theorem fact_deadline_once6 : Gen.nclient6_deadline_armed_once = some true := by decide

/-- `defer rem()`: every try unregisters before the next one registers. -/
theorem fact_defer_rem4 : Gen.nclient4_defer_rem = some true := by decide
theorem fact_defer_rem6 : Gen.nclient6_defer_rem = some true := by decide

/-- `cancel` removes only its own entry (`p == entry`): the LTS is instantiated
with `cancelChecksOwner := true`. -/
theorem fact_cancel_owner4 : Gen.nclient4_cancel_checks_owner = some true := by decide
theorem fact_cancel_owner6 : Gen.nclient6_cancel_checks_owner = some true := by decide

/-- `send` inserts the entry into `c.pending` before it writes the datagram (LTS:
`register` precedes `transmit`; timed model: a reply that arrives at offset 0 of
a try belongs to that try). -/
theorem fact_register_before_write4 : Gen.nclient4_register_before_write = some true := by decide
theorem fact_register_before_write6 : Gen.nclient6_register_before_write = some true := by decide

/-- `Close` closes `c.done` and waits for the receive loop whatever the
connection's own `Close` returns (LTS label `close` is unconditional; timed
model: a waiting call observes `closed` at the instant of Close). -/
theorem fact_close_always_wakes4 : Gen.nclient4_close_always_wakes = some true := by decide
theorem fact_close_always_wakes6 : Gen.nclient6_close_always_wakes = some true := by decide

/-- a failed `WriteTo` runs `cancel()` first, whatever the reason of the failure
(LTS: `transmitFail` / `transmitErr` lead to `cancel1`, `cancel2`; timed model:
after a write error the call is over and holds nothing). -/
theorem fact_write_error_unregisters4 : Gen.nclient4_write_error_unregisters = some true := by decide
theorem fact_write_error_unregisters6 : Gen.nclient6_write_error_unregisters = some true := by decide

end Dhcp.Facts.Client
