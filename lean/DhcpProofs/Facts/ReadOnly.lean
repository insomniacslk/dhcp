import Dhcp.Gen.Extracted
import Dhcp.ReadOnly
import DhcpProofs.Props.C20
/-
  Fact obligations for C20.  `Gen.readMethodEffects` is regenerated from /repo
  on every check by extract/effects.go: one entry (qualified method name,
  writesReceiver) per exported method of dhcpv4, dhcpv6, rfc1035label, iana
  that is not a setter by design (recognised by name: first word Set / Add / Update / Del /
  Delete / FromBytes / Unmarshal).  A method that starts to sort, assign,
  delete, copy or append through its receiver — directly or through the
  functions it calls — turns its entry to `true` and `fact_no_read_method_writes`
  stops checking; an extractor that finds nothing (or fails: `none`) fails the
  same obligation and the size bound.
-/
namespace Dhcp.Facts.ReadOnly
open Dhcp.ReadOnly

/-- the regenerated table; a failed extraction counts as one writing method -/
def table : List (String × Bool) := Gen.readMethodEffects.getD [("<missing>", true)]

theorem fact_no_read_method_writes : ∀ e ∈ table, e.2 = false := by decide +kernel

/-- the extractor did find the read methods (a silent "nothing found" fails here) -/
theorem fact_read_table_size : 80 ≤ table.length := by decide +kernel

/-- spot checks: the methods the property names are in the table -/
theorem fact_read_table_mentions :
    table.lookup "dhcpv4.OptionCodeList.String" = some false ∧
    table.lookup "dhcpv4.(*DHCPv4).Summary" = some false ∧
    table.lookup "dhcpv4.(*DHCPv4).ToBytes" = some false ∧
    table.lookup "dhcpv4.Options.ToBytes" = some false ∧
    table.lookup "dhcpv6.(*Message).Summary" = some false ∧
    table.lookup "dhcpv6.(*RelayMessage).ToBytes" = some false ∧
    table.lookup "dhcpv6.OptionCodes.Contains" = some false ∧
    table.lookup "rfc1035label.(*Labels).ToBytes" = some false ∧
    table.lookup "iana.Archs.String" = some false := by decide +kernel

theorem lookup_mem {n : String} {b : Bool} : ∀ {t : List (String × Bool)}, t.lookup n = some b → (n, b) ∈ t := by
  intro t h
  obtain ⟨l₁, l₂, rfl, _⟩ := List.lookup_eq_some_iff.mp h
  simp

theorem fact_effectsOf_table {n : String} (h : (table.lookup n).isSome) : effectsOf table n = false := by
  unfold effectsOf
  cases hl : table.lookup n with
  | none => rw [hl] at h; cases h
  | some b =>
    have := fact_no_read_method_writes _ (lookup_mem hl)
    simpa using this

/-- C20 for the code as it is now: any sequence of the listed read methods of
    /repo's working tree, any length and order, leaves the value, its encoding
    and every other read method's result unchanged — in every world. -/
theorem fact_C20_for_this_tree {Val Out : Type} (w : World Val Out) (ops : List ReadOp) (v : Val)
    (h : ∀ op ∈ ops, (table.lookup op.name).isSome) :
    (runReads (effectsOf table) w v ops).2 = v
    ∧ (∀ {Wire : Type} (enc : Val → Wire), enc (runReads (effectsOf table) w v ops).2 = enc v)
    ∧ (runReads (effectsOf table) w v ops).1 = ops.map (fun op => w.result op v) :=
  have hf : ∀ op ∈ ops, effectsOf table op.name = false := fun op ho => fact_effectsOf_table (h op ho)
  ⟨(Props.C20.C20_any_sequence _ w ops v hf).1, (Props.C20.C20_any_sequence _ w ops v hf).2.1,
   Props.C20.C20_outputs _ w ops v hf⟩

end Dhcp.Facts.ReadOnly
