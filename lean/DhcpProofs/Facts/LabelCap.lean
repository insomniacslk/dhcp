import Dhcp.Gen.Extracted
import Dhcp.Label
/-
  Fact obligation (regenerated tie) for C09: the decoding loop of
  rfc1035label rejects a name as soon as `label.Len() > maxNameLength` (253)
  (comparison operator 4 = `>`).  The linear size bound of C09 (label
  expansion factor 144) is proved for exactly this cap; if the check
  disappears the extractor emits `none` and this obligation fails.
-/
namespace Dhcp.Facts.LabelCap

theorem fact_labelCap : Gen.c09LabelCap = some Label.maxNameLength ∧ Gen.c09LabelCap_op = some 4 := by
  decide

end Dhcp.Facts.LabelCap
