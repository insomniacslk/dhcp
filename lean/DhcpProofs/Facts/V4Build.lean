import Dhcp.Gen.Extracted
import Dhcp.V4.Build
/-
  Fact obligations (regenerated tie) for the DHCPv4 builders (C15): what
  /repo's working tree passes to `PrependModifiers` in each builder — the
  ordered default modifiers, their constant arguments, the order in which
  `PrependModifiers` concatenates, the struct literal of `newDHCPv4` and the
  flag masks — is what the model `Dhcp.V4.Builder.defaults` / `basePkt` /
  `setBroadcast` / `setUnicast` uses.  `Dhcp.Gen.*` is regenerated by
  /verif/extract on every check run.
-/
namespace Dhcp.Facts.V4Build
open Dhcp.V4

/-- any packet: the names and constant arguments of the defaults do not depend on it -/
private def anyPkt : Pkt4 := basePkt []

private def names (b : Builder) : List String := b.defaults.map Modifier.name

private def requested (b : Builder) : List (List Nat) :=
  b.defaults.filterMap (fun m => match m with
    | .withRequestedOptions cs => some (cs.map (fun c => c.code.toNat))
    | _ => none)
private def requestedAllNamed (b : Builder) : Bool :=
  b.defaults.all (fun m => match m with
    | .withRequestedOptions cs => cs.all (fun c => !c.generic)
    | _ => true)
private def msgTypes (b : Builder) : List Nat :=
  b.defaults.filterMap (fun m => match m with
    | .withMessageType t => some t.toNat
    | _ => none)
private def copied (b : Builder) : List Nat :=
  b.defaults.filterMap (fun m => match m with
    | .withOptionCopied _ c => some c.toNat
    | _ => none)
private def broadcasts (b : Builder) : List Bool :=
  b.defaults.filterMap (fun m => match m with
    | .withBroadcast v => some v
    | _ => none)

/-! `PrependModifiers(m, other...)` returns `append(other, m...)`: defaults first -/
theorem fact_prependDefaultsFirst : Gen.prependDefaultsFirst = some true := by decide
theorem fact_prependModel (m o : List Modifier) : prependModifiers m o = o ++ m := rfl

theorem fact_defaults_NewDiscovery :
    Gen.defaults_NewDiscovery = some (names (.discovery [])) := rfl
theorem fact_defaults_NewInform :
    Gen.defaults_NewInform = some (names (.inform [] none)) := rfl
theorem fact_defaults_NewRequestFromOffer :
    Gen.defaults_NewRequestFromOffer = some (names (.requestFromOffer anyPkt)) := rfl
theorem fact_defaults_NewRenewFromAck :
    Gen.defaults_NewRenewFromAck = some (names (.renewFromAck anyPkt)) := rfl
theorem fact_defaults_NewReplyFromRequest :
    Gen.defaults_NewReplyFromRequest = some (names (.replyFromRequest anyPkt)) := rfl
theorem fact_defaults_NewReleaseFromACK :
    Gen.defaults_NewReleaseFromACK = some (names (.releaseFromAck anyPkt)) := rfl

/-! requested-options lists (all of the package's own code type, as the
`Option…` constants are) -/
theorem fact_requested_NewDiscovery :
    (Gen.requested_NewDiscovery.map fun l => [l]) = some (requested (.discovery [])) ∧
    requestedAllNamed (.discovery []) = true := by decide
theorem fact_requested_NewRequestFromOffer :
    (Gen.requested_NewRequestFromOffer.map fun l => [l]) = some (requested (.requestFromOffer anyPkt)) ∧
    requestedAllNamed (.requestFromOffer anyPkt) = true := by decide
theorem fact_requested_NewRenewFromAck :
    (Gen.requested_NewRenewFromAck.map fun l => [l]) = some (requested (.renewFromAck anyPkt)) ∧
    requestedAllNamed (.renewFromAck anyPkt) = true := by decide

theorem fact_msgtype_NewDiscovery :
    (Gen.msgtype_NewDiscovery.map fun t => [t]) = some (msgTypes (.discovery [])) := by decide
theorem fact_msgtype_NewInform :
    (Gen.msgtype_NewInform.map fun t => [t]) = some (msgTypes (.inform [] none)) := by decide
theorem fact_msgtype_NewRequestFromOffer :
    (Gen.msgtype_NewRequestFromOffer.map fun t => [t]) = some (msgTypes (.requestFromOffer anyPkt)) := by decide
theorem fact_msgtype_NewRenewFromAck :
    (Gen.msgtype_NewRenewFromAck.map fun t => [t]) = some (msgTypes (.renewFromAck anyPkt)) := by decide
theorem fact_msgtype_NewReleaseFromACK :
    (Gen.msgtype_NewReleaseFromACK.map fun t => [t]) = some (msgTypes (.releaseFromAck anyPkt)) := by decide

theorem fact_copied_NewReplyFromRequest :
    Gen.copied_NewReplyFromRequest = some (copied (.replyFromRequest anyPkt)) := by decide
theorem fact_copied_NewRequestFromOffer :
    Gen.copied_NewRequestFromOffer = some (copied (.requestFromOffer anyPkt)) := by decide
theorem fact_copied_NewReleaseFromACK :
    Gen.copied_NewReleaseFromACK = some (copied (.releaseFromAck anyPkt)) := by decide

/-! `WithBroadcast(false)` in renew and release -/
theorem fact_broadcast_NewRenewFromAck :
    (Gen.broadcast_NewRenewFromAck.map fun v => [v]) = some (broadcasts (.renewFromAck anyPkt)) := by decide
theorem fact_broadcast_NewReleaseFromACK :
    (Gen.broadcast_NewReleaseFromACK.map fun v => [v]) = some (broadcasts (.releaseFromAck anyPkt)) := by decide

/-! The source text of each default (the builder's own parameters written
`$0`, `$1`), i.e. WHICH field of the input packet each default is given.  The
right-hand sides are the expressions `Builder.defaults` was transcribed from,
in its order: `$0.YourIPAddr` is `offer.yiaddr`/`ack.yiaddr`, `$0.ClientIPAddr`
is `offer.ciaddr`, `$0.GatewayIPAddr` is `req.giaddr`, `$0.ClientHWAddr` is
`ack.hw`. -/
theorem fact_defaultsSrc_NewDiscovery : Gen.defaultsSrc_NewDiscovery = some
    ["WithHwAddr($0)",
     "WithRequestedOptions(OptionSubnetMask, OptionRouter, OptionDomainName, OptionDomainNameServer)",
     "WithMessageType(MessageTypeDiscover)"] := rfl
theorem fact_defaultsSrc_NewInform : Gen.defaultsSrc_NewInform = some
    ["WithHwAddr($0)", "WithMessageType(MessageTypeInform)", "WithClientIP($1)"] := rfl
theorem fact_defaultsSrc_NewRequestFromOffer : Gen.defaultsSrc_NewRequestFromOffer = some
    ["WithReply($0)", "WithMessageType(MessageTypeRequest)", "WithClientIP($0.ClientIPAddr)",
     "WithOption(OptRequestedIPAddress($0.YourIPAddr))", "WithOptionCopied($0, OptionServerIdentifier)",
     "WithRequestedOptions(OptionSubnetMask, OptionRouter, OptionDomainName, OptionDomainNameServer)"] := rfl
theorem fact_defaultsSrc_NewRenewFromAck : Gen.defaultsSrc_NewRenewFromAck = some
    ["WithReply($0)", "WithMessageType(MessageTypeRequest)", "WithClientIP($0.YourIPAddr)", "WithBroadcast(false)",
     "WithRequestedOptions(OptionSubnetMask, OptionRouter, OptionDomainName, OptionDomainNameServer)"] := rfl
theorem fact_defaultsSrc_NewReplyFromRequest : Gen.defaultsSrc_NewReplyFromRequest = some
    ["WithReply($0)", "WithGatewayIP($0.GatewayIPAddr)", "WithOptionCopied($0, OptionRelayAgentInformation)",
     "WithOptionCopied($0, OptionClientIdentifier)"] := rfl
theorem fact_defaultsSrc_NewReleaseFromACK : Gen.defaultsSrc_NewReleaseFromACK = some
    ["WithMessageType(MessageTypeRelease)", "WithClientIP($0.YourIPAddr)", "WithHwAddr($0.ClientHWAddr)",
     "WithBroadcast(false)", "WithOptionCopied($0, OptionServerIdentifier)"] := rfl

theorem fact_newDHCPv4 :
    Gen.newOpCode = some (basePkt []).op.toNat ∧ Gen.newHWType = some (basePkt []).htype ∧
    Gen.newHWLen = some (basePkt []).hw.length ∧ Gen.newHopCount = some (basePkt []).hops.toNat ∧
    Gen.newNumSeconds = some (basePkt []).secs ∧ Gen.newFlags = some (basePkt []).flags := by decide
theorem fact_newDHCPv4_addrs :
    Gen.newZero_ClientIPAddr = some ((basePkt []).ciaddr == some ipv4zero) ∧
    Gen.newZero_YourIPAddr = some ((basePkt []).yiaddr == some ipv4zero) ∧
    Gen.newZero_ServerIPAddr = some ((basePkt []).siaddr == some ipv4zero) ∧
    Gen.newZero_GatewayIPAddr = some ((basePkt []).giaddr == some ipv4zero) := by decide

theorem fact_opcodes :
    Gen.opBootRequest = some opBootRequest.toNat ∧ Gen.opBootReply = some opBootReply.toNat := by decide
theorem fact_flagMasks :
    Gen.setBroadcastMask = some broadcastMask ∧ Gen.setUnicastMask = some unicastMask ∧
    Gen.isBroadcastCmp = some broadcastMask ∧ Gen.isBroadcastCmp_op = some 0 := by decide

end Dhcp.Facts.V4Build
