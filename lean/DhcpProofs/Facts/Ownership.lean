import Dhcp.Gen.Extracted
import DhcpProofs.Props.C08
/-
  Fact obligations for C08, over the tables the go/ssa provenance analysis
  (extract/provenance.go) regenerates from /repo's working tree on every check:

  * `Gen.decodeLeafProvenance` — one row per instruction, in code reachable
    from a decoding entry point, that stores a slice- or string-typed value
    into the decoded object (field / element / map store, boxing, direct
    return), with `true` = OWNED (the stored value cannot share memory with the
    caller's input in any calling context) and `false` = VIEW;
  * `Gen.topLevelEncodersFresh` — the message- and collection-level encoders,
    `true` = the returned slice and the receiver cannot reach one another;
  * `Gen.valueEncodersFresh` — every other `ToBytes`; the ones that return
    receiver memory by design are listed here by name.

  A `CopyN` turned into `Consume`, a dropped `bytes.Clone`, `append(nil, p...)`
  turned into `p`, a cached output buffer: a row flips to `false` and the
  obligation fails.  A table the extractor could not produce is `none` and
  fails too.
-/
namespace Dhcp.Facts.Ownership
open Dhcp.Ownership

theorem fact_all_leaves_owned :
    ∀ e ∈ Gen.decodeLeafProvenance.getD [("<missing>", false)], e.2 = true := by decide +kernel

theorem fact_top_level_encoders_fresh :
    ∀ e ∈ Gen.topLevelEncodersFresh.getD [("<missing>", false)], e.2 = true := by decide +kernel

/-- the tables are not trivially small (an analysis that lost its roots would pass vacuously) -/
theorem fact_table_sizes :
    45 ≤ (Gen.decodeLeafProvenance.getD []).length ∧
    (Gen.topLevelEncodersFresh.getD []).length = 5 ∧
    45 ≤ (Gen.valueEncodersFresh.getD []).length ∧
    60 ≤ (Gen.decodeRoots.getD []).length := by decide +kernel

/-- store sites that must be in the table (the places where the library copies today) -/
theorem fact_key_leaves_listed :
    ∀ n ∈ ["rfc1035label.(*Labels).FromBytes: rfc1035label.Labels.original",
           "dhcpv4.Options.fromBytesCheckEnd: dhcpv4.Options[]",
           "dhcpv4.FromBytes: dhcpv4.DHCPv4.ClientHWAddr",
           "dhcpv6.(*OptionGeneric).FromBytes: dhcpv6.OptionGeneric.OptionData",
           "dhcpv6.vendParseOption: dhcpv6.OptionGeneric.OptionData",
           "dhcpv6.(*OptIAAddress).FromBytes: dhcpv6.OptIAAddress.IPv6Addr",
           "dhcpv6.(*OptRemoteID).FromBytes: dhcpv6.OptRemoteID.RemoteID",
           "dhcpv6.(*DUIDOpaque).FromBytes: dhcpv6.DUIDOpaque.Data",
           "dhcpv6.(*optInterfaceID).FromBytes: dhcpv6.optInterfaceID.ID",
           "dhcpv6.RelayMessageFromBytes: dhcpv6.RelayMessage.LinkAddr"],
      n ∈ (Gen.decodeLeafProvenance.getD []).map (·.1) := by decide +kernel

theorem fact_top_level_encoders_listed :
    (Gen.topLevelEncodersFresh.getD []).map (·.1) =
      ["dhcpv4.(*DHCPv4).ToBytes", "dhcpv4.Options.ToBytes", "dhcpv6.(*Message).ToBytes",
       "dhcpv6.(*RelayMessage).ToBytes", "dhcpv6.Options.ToBytes"] := by decide +kernel

theorem fact_entry_points_listed :
    ∀ n ∈ ["dhcpv4.FromBytes", "dhcpv4.Options.FromBytes", "dhcpv6.FromBytes", "dhcpv6.MessageFromBytes",
           "dhcpv6.RelayMessageFromBytes", "dhcpv6.ParseOption", "dhcpv6.DUIDFromBytes",
           "dhcpv6.(*Options).FromBytes", "rfc1035label.FromBytes", "rfc1035label.(*Labels).FromBytes",
           "iana.(*Archs).FromBytes"],
      n ∈ Gen.decodeRoots.getD [] := by decide +kernel

/-- value encoders that return receiver memory BY DESIGN (their callers — the
encoders of `fact_top_level_encoders_fresh` — copy it with `WriteBytes`).
A new one is reported; one that starts copying is fine. -/
def fieldReturning : List String :=
  ["dhcpv4.IP.ToBytes", "dhcpv4.IPMask.ToBytes", "dhcpv4.OptionGeneric.ToBytes",
   "dhcpv6.(*NTPSuboptionMCAddr).ToBytes", "dhcpv6.(*NTPSuboptionSrvAddr).ToBytes",
   "dhcpv6.(*NTPSuboptionSrvFQDN).ToBytes", "dhcpv6.(*OptionGeneric).ToBytes",
   "dhcpv6.(*optDomainSearchList).ToBytes", "dhcpv6.(*optInterfaceID).ToBytes",
   "rfc1035label.(*Labels).ToBytes"]

theorem fact_field_returning_encoders :
    ∀ e ∈ Gen.valueEncodersFresh.getD [("<missing>", false)], e.2 = false → e.1 ∈ fieldReturning := by decide +kernel

/-- C08 for the code's table: any decoded object whose leaves were created at the
listed store sites (soundness of the provenance analysis, checked at run time by
the pointer scan of oracle `c08`) is unaffected by every overwrite of the input. -/
theorem fact_C08_scribble_extracted {α : Type} (ls : List TaggedLeaf)
    (hs : TableSound (Gen.decodeLeafProvenance.getD [("<missing>", false)]) ls)
    (m : Mem) (b' : Bytes) (f : Observer α) :
    observe f (scribble m b') ⟨ls.map (·.prov)⟩ = observe f m ⟨ls.map (·.prov)⟩ :=
  Props.C08_scribble_of_table _ ls fact_all_leaves_owned hs m b' f

end Dhcp.Facts.Ownership
