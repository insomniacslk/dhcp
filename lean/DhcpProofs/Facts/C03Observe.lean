import Dhcp.Gen.Extracted
import Dhcp.V6.Observe
import Dhcp.V4.Observe
/-
  Fact obligations for the C03 observer models (Dhcp/V6/Observe.lean,
  Dhcp/V4/Observe.lean), read from /repo's working tree on every run
  (extract/c03x.go): the vendor prefixes the ZTP parsers test and the
  separators they split on (each literal followed by a 0 octet, source order),
  the piece counts compared before indexing (`(op, n)` pairs, op 0 `==`,
  1 `!=`, 2 `<`), enterprise numbers, Mellanox sub-option codes, the message
  types of netboot's conversation switch, option codes.
-/
namespace Dhcp.Facts.C03Observe

private def lits (xs : List Bytes) : Option (List Nat) := some (xs.flatMap (fun s => s.map UInt8.toNat ++ [0]))

/-- ztpv6.ParseVendorData: `HasPrefix` literals (the Ciena prefix is `strconv.Itoa` of the enterprise number) -/
theorem fact_ztp6_prefixes :
    Gen.ztp6HasPrefix = lits [V6.pfxArista, V6.pfxCisco, V6.pfxZPE, V6.pfxNVOS] ∧
    Gen.ztp6Split = lits [V6.sepSemi, V6.sepColon, V6.sepHashes, V6.sepDash] ∧
    Gen.ztp6LenCmp = some [2, 4, 2, 3, 2, 3, 2, 3] := by decide

theorem fact_ztp_enterprise :
    Gen.entMellanox = some V6.entMellanox ∧ Gen.entCiscoSystems = some V4.Obs.entCisco ∧
    Gen.entCienaCorporation = some 1271 ∧ V6.pfxCiena = Str.ascii ['1', '2', '7', '1'] ∧ V4.Obs.pfxCiena = V6.pfxCiena ∧
    Gen.mlnxSubOptionModel = some 1 ∧ Gen.mlnxSubOptionSerial = some 3 := by decide

/-- ztpv4.parseClassIdentifier and parseVIVC -/
theorem fact_ztp4_prefixes :
    Gen.ztp4HasPrefix = lits [V4.Obs.pfxArista, V4.Obs.pfxZPE, V4.Obs.pfxJuniperDash, V4.Obs.pfxJuniperColon] ∧
    Gen.ztp4Split = lits [V4.Obs.sepSemi, V4.Obs.sepColon, V4.Obs.sepDash, V4.Obs.sepColon, V4.Obs.sepDash] ∧
    Gen.ztp4LenCmp = some [2, 4, 2, 3, 2, 3, 0, 3, 1, 3] ∧
    Gen.ztp4VIVCSplit = lits [V4.Obs.sepSemi, V4.Obs.sepColon] ∧ Gen.ztp4VIVCLenCmp = some [1, 2] := by decide

/-- netboot: `switch m.Type()` of ConversationToNetconf; the OFFER test of ConversationToNetconfv4 -/
theorem fact_netboot :
    Gen.netbootConvSwitch = some [V6.mtAdvertise.toNat, V6.mtReply.toNat] ∧
    Gen.v4OpcodeBootReply = some V4.Obs.opBootReply.toNat ∧ Gen.v4MessageTypeOffer = some V4.Obs.mtOffer.toNat := by
  decide

theorem fact_codes :
    Gen.ocIAAddr = some V6.ocIAAddr ∧ Gen.ocVendorOpts = some V6.ocVendorOpts ∧ Gen.ocNTPServer = some V6.ocNTPServer ∧
    Gen.v4OptionClientIdentifier = some V4.Obs.clientIdentifier.toNat ∧
    Gen.v4AgentCircuitIDSubOption = some V4.Obs.agentCircuitID.toNat ∧
    (V6.Opt6.iaaddr none 0 0 []).code = V6.ocIAAddr ∧ (V6.Opt6.vendorOpts 0 []).code = V6.ocVendorOpts ∧
    (V6.Opt6.ntp []).code = V6.ocNTPServer := by decide

end Dhcp.Facts.C03Observe
