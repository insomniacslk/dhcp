import Dhcp.Gen.Extracted
import Dhcp.Server
/-
  Fact obligations (regenerated tie) for the serving-loop model (C14): the
  constants and the loop shape `Dhcp.Server.serveFrom` / `peer4` were written
  for are the ones /repo's working tree has now.  `Dhcp.Gen.*` is regenerated
  by /verif/extract (extract/server.go) on every check run; an anchor it cannot
  find becomes `none` and the obligation fails.
  Block-exit codes: 1 = `return`, 2 = `continue`, 3 = `break`, 0 = falls through.
-/
namespace Dhcp.Facts.Server
open Dhcp.Server

/-- `rbuf := make([]byte, 4096)` in both loops -/
theorem fact_srv4ReadBuf : Gen.srv4ReadBuf = some readBufLen := by decide
theorem fact_srv6ReadBuf : Gen.srv6ReadBuf = some readBufLen := by decide

/-- a failed read returns, a failed parse continues, a non-UDP sender continues (`step`) -/
theorem fact_srv4LoopShape :
    Gen.srv4ReadErrExit = some 1 ∧ Gen.srv4ParseErrExit = some 2 ∧ Gen.srv4NotUDPExit = some 2 := by decide
theorem fact_srv6LoopShape : Gen.srv6ReadErrExit = some 1 ∧ Gen.srv6ParseErrExit = some 2 := by decide

/-- the handler is called at exactly one place, a `go` statement at the end of the loop body -/
theorem fact_srv4Handler : Gen.srv4HandlerCalls = some 1 ∧ Gen.srv4HandlerGo = some 1 := by decide
theorem fact_srv6Handler : Gen.srv6HandlerCalls = some 1 ∧ Gen.srv6HandlerGo = some 1 := by decide

/-- `if upeer.IP == nil || upeer.IP.To4().Equal(net.IPv4zero) { upeer = &net.UDPAddr{IP: net.IPv4bcast, Port: upeer.Port} }`
with `net.IPv4zero = IPv4(0,0,0,0)` and `net.IPv4bcast = IPv4(255,255,255,255)` (16-byte form) -/
theorem fact_srv4Rewrite :
    Gen.srv4RewriteCond = some 1 ∧ Gen.srv4RewriteKeepsPort = some 1 ∧
    Gen.srv4RewriteIfIP = some (ipv4zero4.map UInt8.toNat) ∧
    Gen.srv4RewriteToIP.map (fun l => [0, 0, 0, 0, 0, 0, 0, 0, 0, 0, 255, 255] ++ l) =
      some (ipv4bcast.map UInt8.toNat) := by decide

end Dhcp.Facts.Server
