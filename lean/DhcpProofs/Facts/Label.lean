import Dhcp.Gen.Extracted
import Dhcp.Label
import Dhcp.Spec.Name
/-
  Fact obligations (regenerated tie) for rfc1035label: the constants the
  model of `labelsFromBytes` and the name spec were written for are the ones
  /repo's working tree has now.  `Dhcp.Gen.*` is regenerated by /verif/extract
  on every check run.
-/
namespace Dhcp.Facts.Label

/-- `maxNameLength` is the model's and the spec's 253. -/
theorem fact_labelMaxName :
    Gen.labelMaxName = some Label.maxNameLength ∧ Gen.labelMaxName = some Spec.Name.maxDotted := by decide
/-- `label.Len() > maxNameLength` -/
theorem fact_labelNameCmp : Gen.labelNameCmp = some Label.maxNameLength ∧ Gen.labelNameCmp_op = some 4 := by decide
/-- `length&0xc0 == 0xc0` is the pointer test -/
theorem fact_labelPtrTest : Gen.labelPtrMask = some 0xc0 ∧ Gen.labelPtrVal = some 0xc0 := by decide
/-- `length&0xc0 != 0` is the reserved-type test -/
theorem fact_labelReservedTest : Gen.labelResMask = some 0xc0 ∧ Gen.labelResVal = some 0 := by decide
/-- `int(buf[pos-1]&^0xc0)<<8 + int(buf[pos])` -/
theorem fact_labelOffset : Gen.labelOffClear = some 0xc0 ∧ Gen.labelOffShift = some 8 := by decide

end Dhcp.Facts.Label
