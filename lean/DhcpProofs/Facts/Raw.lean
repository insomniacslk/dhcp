import Dhcp.Gen.Extracted
import Dhcp.Raw
/-
  Fact obligations of property C18 (regenerated tie): the header constants,
  field offsets, fixed header values and comparisons that the model of
  nclient4's raw connection (Dhcp/Raw.lean) and its theorems were written for
  are the ones /repo's working tree has now.  `Dhcp.Gen.*` is regenerated by
  /verif/extract (extract/raw.go) on every check run; a lookup whose anchor is
  gone yields `none` and the obligation fails.
-/
namespace Dhcp.Facts.Raw

theorem fact_ipv4MinimumSize : Gen.rawIpv4MinimumSize = some Raw.ipv4MinimumSize := by decide
theorem fact_ipv4MaximumHeaderSize : Gen.rawIpv4MaximumHeaderSize = some Raw.ipv4MaximumHeaderSize := by decide
theorem fact_ipv4AddressSize : Gen.rawIpv4AddressSize = some Raw.ipv4AddressSize := by decide
theorem fact_ipv4Version : Gen.rawIpv4Version = some Raw.ipv4Version ∧
    Gen.rawIpVersionShift = some Raw.ipVersionShift := by decide
theorem fact_udpMinimumSize : Gen.rawUdpMinimumSize = some Raw.udpMinimumSize := by decide
theorem fact_udpProtocolNumber : Gen.rawUdpProtocolNumber = some Raw.udpProtocolNumber := by decide
/-- `udp4pkt` sets `IHL: ipv4MinimumSize`, `TTL: 64`, `Protocol: uint8(udpProtocolNumber)` -/
theorem fact_udp4pkt_fields : Gen.rawFieldIHL = some Raw.ipv4MinimumSize ∧ Gen.rawFieldTTL = some Raw.ttlValue ∧
    Gen.rawFieldProtocol = some Raw.udpProtocolNumber := by decide
theorem fact_ipv4_offsets : Gen.rawOffVersIHL = some Raw.versIHL ∧ Gen.rawOffTos = some Raw.tosOff ∧
    Gen.rawOffTotalLen = some Raw.totalLenOff ∧ Gen.rawOffId = some Raw.idOff ∧
    Gen.rawOffFlagsFO = some Raw.flagsFOOff ∧ Gen.rawOffTtl = some Raw.ttlOff ∧
    Gen.rawOffProtocol = some Raw.protocolOff ∧ Gen.rawOffChecksum = some Raw.checksumOff ∧
    Gen.rawOffSrcAddr = some Raw.srcAddrOff ∧ Gen.rawOffDstAddr = some Raw.dstAddrOff := by decide
theorem fact_udp_offsets : Gen.rawOffUdpSrcPort = some Raw.udpSrcPortOff ∧
    Gen.rawOffUdpDstPort = some Raw.udpDstPortOff ∧ Gen.rawOffUdpLength = some Raw.udpLengthOff ∧
    Gen.rawOffUdpChecksum = some Raw.udpChecksumOff := by decide
/-- `headerLength` is `(b[versIHL] & 0xf) * 4` -/
theorem fact_headerLength : Gen.rawIHLMask = some 0xf ∧ Gen.rawIHLUnit = some 4 := by decide
/-- `ReadFrom` sizes its receive buffer `ipv4MaximumHeaderSize + udpMinimumSize + len(b)` -/
theorem fact_recv_buffer : Gen.rawRecvIpHdrMax = some Raw.ipv4MaximumHeaderSize ∧
    Gen.rawRecvUdpHdr = some Raw.udpMinimumSize := by decide
/-- `isValid`: `len(b) < 20`, `hlen < 20`, `ipVersion(b) != 4` (operator codes: `<` = 2, `!=` = 1, `==` = 0) -/
theorem fact_isValid : Gen.rawValidMinLen = some Raw.ipv4MinimumSize ∧ Gen.rawValidMinLen_op = some 2 ∧
    Gen.rawValidMinHlen = some Raw.ipv4MinimumSize ∧ Gen.rawValidMinHlen_op = some 2 ∧
    Gen.rawValidVersion = some Raw.ipv4Version ∧ Gen.rawValidVersion_op = some 1 := by decide
/-- `ReadFrom`: `transportProtocol() != udpProtocolNumber` skips, `n == 0` is EOF -/
theorem fact_readFrom : Gen.rawReadProto = some Raw.udpProtocolNumber ∧ Gen.rawReadProto_op = some 1 ∧
    Gen.rawReadZero = some 0 ∧ Gen.rawReadZero_op = some 0 := by decide

/-- Writes keep no per-connection state (what `Raw.writeAll` assumes): `WriteTo` assigns nothing reachable from
its receiver, `BroadcastRawUDPConn` has its two fields (PacketConn, boundAddr), `udp4pkt` takes
(packet, dest, src) and allocates its buffer itself. -/
theorem fact_writeTo_stateless : Gen.rawWriteToAssignsReceiver = some false ∧ Gen.rawConnFields = some 2 ∧
    Gen.rawUdp4pktParams = some 3 ∧ Gen.rawUdp4pktMakesBuffer = some true := by decide

end Dhcp.Facts.Raw
