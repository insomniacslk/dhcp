import Dhcp.Gen.Extracted
import Dhcp.Client.Lease
/-
  Fact obligations (regenerated tie) for the lease exchange model (C13):
  what `Dhcp.Client.Lease` hard-codes about nclient4 / nclient6 is what /repo's
  working tree says now.  `Dhcp.Gen.*` is regenerated by /verif/extract
  (extract/lease.go) on every check run.  The exchange functions are
  straight-line code: for each, the obligation pins the source text of the
  builder call, of the matcher handed to `SendAndRead`, of the tests made on the
  answer and of the values built from it to the text the model was written
  from (quoted beside the model definition it stands for).
-/
namespace Dhcp.Facts.Lease
open Dhcp.V4 Dhcp.Client.Lease

theorem fact_ServerPort : Gen.nclient4_ServerPort = some serverPort := rfl
theorem fact_MaxMessageSize : Gen.nclient4_MaxMessageSize = some maxMessageSize := rfl
theorem fact_messageTypes : Gen.dhcpv4_MessageTypeOffer = some mtOffer.toNat ∧
    Gen.dhcpv4_MessageTypeAck = some mtAck.toNat ∧ Gen.dhcpv4_MessageTypeNak = some mtNak.toNat ∧
    Gen.dhcpv4_OptionMaximumDHCPMessageSize = some optMaxMsgSize.toNat := ⟨rfl, rfl, rfl, rfl⟩

theorem fact_IsMessageType : Gen.nclient4_IsMessageType_body =
    some ["if p.MessageType() == t", "return true", "range tt", "if p.MessageType() == mt", "return true",
      "return false"] := rfl
theorem fact_IsCorrectServer : Gen.nclient4_IsCorrectServer_body =
    some ["return p.ServerIdentifier().Equal(s)"] := rfl
theorem fact_IsAll : Gen.nclient4_IsAll_body =
    some ["range ms", "if !m(p)", "return false", "return true"] := rfl
theorem fact_IsMessageType6 : Gen.nclient6_IsMessageType_body =
    some ["if p.MessageType == t", "return true", "range tt", "if p.MessageType == mt", "return true",
      "return false"] := rfl

/-! `discoverPkt` / `offerMatcher` / `discoverOffer` -/
theorem fact_DiscoverOffer :
    Gen.nclient4_DiscoverOffer_build = some ["dhcpv4.NewDiscovery(c.ifaceHWAddr, dhcpv4.PrependModifiers(modifiers, dhcpv4.WithOption(dhcpv4.OptMaxMessageSize(MaxMessageSize)))...)"] ∧
    Gen.nclient4_DiscoverOffer_matcher = some ["IsMessageType(dhcpv4.MessageTypeOffer)"] ∧
    Gen.nclient4_DiscoverOffer_dest = some ["c.serverAddr"] := ⟨rfl, rfl, rfl⟩

/-! `requestPkt` / `ackNakMatcher` / `completion` / `requestFromOffer` -/
theorem fact_RequestFromOffer :
    Gen.nclient4_RequestFromOffer_build = some ["dhcpv4.NewRequestFromOffer(offer, dhcpv4.PrependModifiers(modifiers, dhcpv4.WithOption(dhcpv4.OptMaxMessageSize(MaxMessageSize)))...)"] ∧
    Gen.nclient4_RequestFromOffer_matcher = some ["IsAll(IsCorrectServer(offer.ServerIdentifier()), IsMessageType(dhcpv4.MessageTypeAck, dhcpv4.MessageTypeNak))"] ∧
    Gen.nclient4_RequestFromOffer_tests = some ["if response.MessageType() == dhcpv4.MessageTypeNak"] ∧
    Gen.nclient4_RequestFromOffer_built = some ["ErrNak{ Offer: offer, Nak: response, }", "lease.ACK = response",
      "lease.Offer = offer", "lease.CreationTime = time.Now()"] ∧
    Gen.nclient4_RequestFromOffer_dest = some ["c.serverAddr"] := ⟨rfl, rfl, rfl, rfl, rfl⟩

/-! `request`: the SAME modifier list goes to both calls -/
theorem fact_Request : Gen.nclient4_Request_calls =
    some ["c.DiscoverOffer(ctx, modifiers...)", "c.RequestFromOffer(ctx, offer, modifiers...)"] := rfl

/-! `renewPkt` / `renew`: the matcher is keyed on `lease.Offer` -/
theorem fact_Renew :
    Gen.nclient4_Renew_build = some ["dhcpv4.NewRenewFromAck(lease.ACK, dhcpv4.PrependModifiers(modifiers, dhcpv4.WithOption(dhcpv4.OptMaxMessageSize(MaxMessageSize)))...)"] ∧
    Gen.nclient4_Renew_matcher = some ["IsAll(IsCorrectServer(lease.Offer.ServerIdentifier()), IsMessageType(dhcpv4.MessageTypeAck, dhcpv4.MessageTypeNak))"] ∧
    Gen.nclient4_Renew_tests = some ["if response.MessageType() == dhcpv4.MessageTypeNak"] ∧
    Gen.nclient4_Renew_built = some ["ErrNak{ Offer: lease.Offer, Nak: response, }",
      "Lease{ Offer: lease.Offer, ACK: response, CreationTime: time.Now(), }"] ∧
    Gen.nclient4_Renew_dest = some ["c.serverAddr"] := ⟨rfl, rfl, rfl, rfl, rfl⟩

/-! `releasePkt` / `releaseDestIP` / `release`: one write, no read -/
theorem fact_Release :
    Gen.nclient4_Release_build = some ["dhcpv4.NewReleaseFromACK(lease.ACK, modifiers...)"] ∧
    Gen.nclient4_Release_writes = some ["c.conn.WriteTo(req.ToBytes(), &net.UDPAddr{IP: lease.ACK.Options.Get(dhcpv4.OptionServerIdentifier), Port: ServerPort})"] ∧
    Gen.nclient4_Release_reads = some [] := ⟨rfl, rfl, rfl⟩

theorem fact_Inform :
    Gen.nclient4_Inform_build = some ["dhcpv4.NewInform(c.ifaceHWAddr, localIP, modifiers...)"] ∧
    Gen.nclient4_Inform_matcher = some ["IsMessageType(dhcpv4.MessageTypeAck)"] := ⟨rfl, rfl⟩

theorem fact_Solicit :
    Gen.nclient6_Solicit_build = some ["dhcpv6.NewSolicit(c.ifaceHWAddr, modifiers...)"] ∧
    Gen.nclient6_Solicit_matcher = some ["IsMessageType(dhcpv6.MessageTypeAdvertise)"] := ⟨rfl, rfl⟩
theorem fact_RapidSolicit :
    Gen.nclient6_RapidSolicit_build = some ["dhcpv6.NewSolicit(c.ifaceHWAddr, append(modifiers, dhcpv6.WithRapidCommit)...)"] ∧
    Gen.nclient6_RapidSolicit_matcher = some ["IsMessageType(dhcpv6.MessageTypeReply, dhcpv6.MessageTypeAdvertise)"] ∧
    Gen.nclient6_RapidSolicit_tests = some ["switch msg.MessageType | case dhcpv6.MessageTypeReply | case dhcpv6.MessageTypeAdvertise | default"] ∧
    Gen.nclient6_RapidSolicit_calls = some ["c.Request(ctx, msg, modifiers...)"] := ⟨rfl, rfl, rfl, rfl⟩
theorem fact_Request6 :
    Gen.nclient6_Request_build = some ["dhcpv6.NewRequestFromAdvertise(advertise, modifiers...)"] ∧
    Gen.nclient6_Request_matcher = some ["IsMessageType(dhcpv6.MessageTypeReply)"] := ⟨rfl, rfl⟩

end Dhcp.Facts.Lease
