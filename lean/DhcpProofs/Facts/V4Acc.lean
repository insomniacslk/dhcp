import Dhcp.Gen.Extracted
import Dhcp.V4.Values
/-
  Fact obligations for C17 (regenerated tie): the typed accessors of
  `*DHCPv4` found in /repo's working tree — every exported method that reads
  `d.Options` with a constant option code — are exactly the ones the model
  has, each reading the option code and parsing with the getter / value type
  the model was written for.  `Dhcp.Gen.*` is regenerated by /verif/extract on
  every check run.
-/
namespace Dhcp.Facts.V4Acc

theorem fact_accessor_table : Gen.v4accCodes = some V4.accTable := rfl

end Dhcp.Facts.V4Acc
