import DhcpProofs.Lemmas.ClientTimed
import DhcpProofs.Lemmas.ClientLTSProgress
import DhcpProofs.Lemmas.ClientLTSRank
/-
  C11 — client calls always complete: timeout, cancellation, Close, cleanup.
  Property theorems only.

  Part 1 (this section): timing, over the timed model of one call
  (Dhcp.Client.Timed; see Props/C12.lean for the vocabulary).
  Part 2 (below, namespace Dhcp.Client.LTS): xid reuse, Close safety and
  progress, over the interleaving model.
-/
namespace Dhcp.Client.Timed

/-- **C11 (budget).** `n ≥ 0`: whatever is observed — ANY observation sequence:
rejected same-xid datagrams at any rate, bursts, foreign traffic, coincidences
with deadlines resolved either way — the call has returned by
`T·(2^n − 1)`. -/
theorem C11_budget (T n : Int) (obs : List Obs) (H : Int) (hT : 0 < T) (hn : 0 ≤ n)
    (_hov : NoOverflow T n.toNat) (hH : T * (2 ^ n.toNat - 1) ≤ H) :
    ∃ t o, (runObs T n obs H).ret = some (t, o) ∧ t ≤ T * (2 ^ n.toNat - 1) :=
  budget hT hn obs H hH

/-- **C11 (budget), any horizon.** A call that has returned returned within budget. -/
theorem C11_budget_ret (T n : Int) (obs : List Obs) (H t : Int) (o : Outcome) (hT : 0 < T) (hn : 0 ≤ n)
    (h : (runObs T n obs H).ret = some (t, o)) : t ≤ T * (2 ^ n.toNat - 1) := by
  obtain ⟨_, _, _, h3⟩ := result_shape (n := n) hT obs H
  exact (h3 t o h).2 hn

/-- **C11 (budget) for the script-level model**: every result the driver can
print for a script (whatever it injects, cancels or closes, racing or not)
returns within budget. -/
theorem C11_budget_script (T n : Int) (evs : List Event) (H : Int) (hT : 0 < T) (hn : 0 ≤ n)
    (hH : T * (2 ^ n.toNat - 1) ≤ H) (r : Result) (hr : r ∈ runCall T n evs H) :
    ∃ t o, r.ret = some (t, o) ∧ t ≤ T * (2 ^ n.toNat - 1) := by
  obtain ⟨obs, rfl⟩ := runCall_sound T n evs H r hr
  exact budget hT hn obs H hH

/-- **C11 (context).** The context ends at instant `τ` while the call has not
returned (nothing observed before is later than `τ`; with the horizon at `τ`
the call is still running): the call returns at `τ` with the context's error,
whatever follows. No hypothesis on `T`, `n` or the earlier traffic. -/
theorem C11_ctx (T n : Int) (pre post : List Obs) (τ : Int) (tag : Nat) (after : Bool) (H : Int)
    (h0 : 0 ≤ τ) (hpre : ∀ p ∈ pre, p.t ≤ τ) (hw : (runObs T n pre τ).ret = none) :
    (runObs T n (pre ++ ⟨τ, .ctx, tag, after⟩ :: post) H).ret = some (τ, .ctxErr) :=
  terminal_prompt T n pre post ⟨τ, .ctx, tag, after⟩ H (Or.inr (Or.inl rfl)) h0 hpre hw

/-- **C11 (accept).** An acceptable response observed at `τ` while the call has
not returned: the call returns that response at `τ`. -/
theorem C11_accept (T n : Int) (pre post : List Obs) (τ : Int) (tag : Nat) (after : Bool) (H : Int)
    (h0 : 0 ≤ τ) (hpre : ∀ p ∈ pre, p.t ≤ τ) (hw : (runObs T n pre τ).ret = none) :
    (runObs T n (pre ++ ⟨τ, .acc, tag, after⟩ :: post) H).ret = some (τ, .resp tag) :=
  terminal_prompt T n pre post ⟨τ, .acc, tag, after⟩ H (Or.inl rfl) h0 hpre hw

/-- **C11 (closed).** The client is closed at `τ` while the call has not
returned: the call returns the no-response error at `τ`. -/
theorem C11_closed (T n : Int) (pre post : List Obs) (τ : Int) (tag : Nat) (after : Bool) (H : Int)
    (h0 : 0 ≤ τ) (hpre : ∀ p ∈ pre, p.t ≤ τ) (hw : (runObs T n pre τ).ret = none) :
    (runObs T n (pre ++ ⟨τ, .closed, tag, after⟩ :: post) H).ret = some (τ, .noResp) :=
  terminal_prompt T n pre post ⟨τ, .closed, tag, after⟩ H (Or.inr (Or.inr rfl)) h0 hpre hw

/-- **C11 (write error).** When the `k`-th `WriteTo` of a call fails on an open
client and the fault-free run reaches that transmission, the call returns the
write error at that very instant, `T·(2^k − 1)`, with exactly the `k` earlier
transmissions; a run that ends before is unaffected.  (This is `applyWriteFault`
by cases; that transmission `k` of the fault-free run is at `T·(2^k − 1)` is
`result_shape`, not restated here.) -/
theorem C11_write_error (T : Int) (k : Nat) (r : Result) :
    (k < r.txs.length → applyWriteFault T k r = ⟨r.txs.take k, some (T * (2 ^ k - 1), .writeErr)⟩) ∧
    (r.txs.length ≤ k → applyWriteFault T k r = r) := by
  unfold applyWriteFault
  constructor
  · intro h; simp [h]
  · intro h; simp [Nat.not_lt.2 h]

/-- the hypotheses of `C11_ctx` hold of a concrete run: rejected stream, cancel at 2999
(1 ns before the second deadline) of a 1000 ns / 4-try call. -/
example : (runObs 1000 4 [⟨500, .rej, 0, true⟩, ⟨1000, .rej, 1, false⟩] 2999).ret = none ∧
    (runObs 1000 4 ([⟨500, .rej, 0, true⟩, ⟨1000, .rej, 1, false⟩] ++ ⟨2999, .ctx, 2, true⟩ :: [⟨3000, .acc, 3, true⟩]) 9000)
      = ⟨[0, 1000], some (2999, .ctxErr)⟩ := by decide

/-- a rejected datagram every 20 ns against a 150 ns budget (T = 50, 2 tries): returns at 150
(the pre-fix code, which re-armed the timer on every datagram, never did). -/
example : runObs 50 2 ((List.range 100).map (fun (i : Nat) => ⟨20 * (i : Int), .rej, i, true⟩)) 2000 =
    ⟨[0, 50], some (150, .noResp)⟩ := by decide

end Dhcp.Client.Timed

/-
  Part 2: xid reuse, Close safety and progress, over the interleaving model
  Dhcp.Client.LTS (vocabulary: Props/C10.lean). `Reachable cfg s`: some label
  list (any interleaving of any number of callers, the receive loop, Close,
  datagrams, timers, context ends) leads from the initial state to `s`.
-/
namespace Dhcp.Client.LTS

/-- **C11_reuse.** Once a call has returned — and already when it is back in
`retryFn` between two tries — no entry of the pending map is there on its
account: its transaction id is immediately reusable (by itself or by anyone:
`register` on that id is enabled unless ANOTHER call holds it). -/
theorem C11_reuse (cfg : Cfg) (hf : cfg.cancelChecksOwner = true) (s : State) (hr : Reachable cfg s) (i : Nat)
    (hpc : (∃ res, (getC s i).pc = .returned res) ∨ (∃ w, (getC s i).pc = .after w) ∨ (getC s i).pc = .start)
    (x r : Nat) (hp : s.pending.get x = some r) : (getR s r).owner ≠ i := by
  have hi := reach_all cfg hf s hr
  intro ho
  have := hi.w.powner x r hp
  rw [ho] at this
  rcases hpc with ⟨res, h⟩ | ⟨w, h⟩ | h <;> rw [h] at this <;> simp at this

/-- **C11_close_safe.** No reachable state has hit one of the two Go panics
this protocol could hit: closing a closed channel (`close(p.ch)` in the loop
or in `cancel`, `close(done)`), sending on a closed channel (`p.ch <- msg`). -/
theorem C11_close_safe (cfg : Cfg) (hf : cfg.cancelChecksOwner = true) (s : State) (hr : Reachable cfg s) :
    s.fault = none := (reach_all cfg hf s hr).w.nofault

/-- **C11 (a try that starts after Close reports ErrNoResponse).** The write
fails, `cancel()` runs, and the call returns the no-response error (the
defect fixed in 98bd242: it used to return the transport's write error).
The statement is the last step of that path: from `after txfail`, `ret`
returns `noResp`. -/
theorem C11_close_between_tries (cfg : Cfg) (s s' : State) (i : Nat) (hpc : (getC s i).pc = .after .txfail)
    (h : step cfg s (.ret i) = some s') : (getC s' i).pc = .returned .noResp := by
  simp only [step, hpc] at h
  split at h
  · simp at h
  · injection h with h; subst h; simp [getC, retOf]

/-- **C11 (a write error on an open client unregisters).** The failing `WriteTo`
(label `transmitErr`) leads through `cancel()` to the write error being
returned; by `C11_reuse` the transaction id is then free.  The statement is
the last step of that path: from `after txerr`, `ret` returns `writeErr`. -/
theorem C11_write_error_returns (cfg : Cfg) (s s' : State) (i : Nat) (hpc : (getC s i).pc = .after .txerr)
    (h : step cfg s (.ret i) = some s') : (getC s' i).pc = .returned .writeErr := by
  simp only [step, hpc] at h
  split at h
  · simp at h
  · injection h with h; subst h; simp [getC, retOf]

/-- **C11_close_progress (deadlock freedom).** In every reachable state in
which the client has been closed, either everything has finished — the receive
loop has exited, Close has returned, every call has returned — or some step
of the client itself (receive loop, Close, a caller; not the environment) is
enabled. Includes the state where the loop is parked on a full channel
holding the mutex: then the owner of that channel can move. -/
theorem C11_close_progress (cfg : Cfg) (hf : cfg.cancelChecksOwner = true) (s : State) (hr : Reachable cfg s)
    (hc : s.closed = true) :
    (s.rx = .exited ∧ s.closeReturned = true ∧ ∀ i, (getC s i).pc = .idle ∨ ∃ res, (getC s i).pc = .returned res) ∨
    ∃ l, isEnv l = false ∧ (step cfg s l).isSome = true :=
  closed_progress cfg hf s hr hc

/-- **C11_close_variant (termination measure, per process).** After Close,
for every caller `i` the measure `mu i` (its distance to `returned` in program
counter steps, twice the packets waiting in its channel, and the work the
receive loop and Close can still do: program counter, 12 per datagram in the
socket queue, 1 for `wg.Wait`) never increases on a step of the client and
strictly decreases on every step of caller `i` itself, of the receive loop,
and of Close's wait. So after Close every process takes finitely many steps;
with `C11_close_progress` (something can always move until all is done):
under any fair schedule the receive loop exits, Close returns and every call
returns. -/
theorem C11_close_variant (cfg : Cfg) (hf : cfg.cancelChecksOwner = true) (s s' : State) (hr : Reachable cfg s)
    (hc : s.closed = true) (l : Label) (hl : isEnv l = false) (h : step cfg s l = some s') (i : Nat) :
    mu i s' ≤ mu i s ∧ (movesFor i l = true → mu i s' < mu i s) :=
  let hw := (reach_all cfg hf s hr).w
  ⟨mu_mono cfg s s' l i hc hw hl h, fun hm => mu_strict cfg s s' l i hc hw hm h⟩

/-- The single-rank form: ONE function of the state
that strictly decreases on every non-environment step in a closed state. -/
def C11_close_rank_full (cfg : Cfg) : Prop :=
  ∃ rank : State → Nat, ∀ s s' l, Reachable cfg s → s.closed = true → isEnv l = false →
    step cfg s l = some s' → rank s' < rank s

/-- **C11 (Close: one rank for the whole client).** `rank` = the receive loop's
potential once, plus the program-counter and buffer part of every caller that
was ever started (finitely many: `cbound`).  Every step of the client itself -
receive loop, Close's wait, any caller - in a closed reachable state lowers it:
a step changes the part of at most one caller (`cpart_frame`: its own, or for
`rxDeliver` that of the owner of the registration delivered into) and that
caller's part together with the loop's potential goes down (`mu_strict`).  So
between two steps of the environment the closed client makes at most `rank s`
steps of its own.  (Environment steps are not covered: `arrive` and `call` raise
the rank.) -/
theorem C11_close_rank (cfg : Cfg) (hf : cfg.cancelChecksOwner = true) : C11_close_rank_full cfg :=
  ⟨rank, fun s s' l hr hc hl h => rank_decreases cfg s s' l hc (reach_all cfg hf s hr).w hl h⟩


/-! Non-vacuity: a reachable closed state with the loop parked on a full
channel while holding the mutex (cap 0, matcher not yet evaluated). -/
def cfgPark : Cfg :=
  { caller := fun _ => { xid := 5, matchNil := false, accepts := fun d => d.tag == 1, retry := 1 }, cap := 0 }

def parkTrace : List Label :=
  [.call 0, .lock 0, .register 0, .transmit 0, .arrive ⟨5, true, 0⟩, .arrive ⟨5, true, 0⟩,
   .rxRead, .rxPass, .rxLock, .rxDeliver, .rxUnlock, .take 0, .rxRead, .rxPass, .rxLock, .close]

/-- the rank in numbers on that parked state (loop in `sending`: 8, Close not yet
returned: 1, caller 0 in `matching`: 19) -/
example : (run cfgPark init parkTrace).map rank = some 28 := by decide
example : (run cfgPark init (parkTrace ++ [.rxDoneDrop])).map rank = none ∨
    ((run cfgPark init (parkTrace ++ [.rxDoneDrop])).map rank).getD 0 < 28 := by decide

example : ∃ s, Reachable cfgPark s ∧ s.closed = true ∧ s.mutex = some .rx ∧
    (∃ p r, s.rx = .sending p r) ∧ step cfgPark s .rxDeliver = none ∧ step cfgPark s .rxDoneDrop = none :=
  ⟨_, ⟨parkTrace, rfl⟩, by decide, by decide, ⟨_, _, rfl⟩, by decide, by decide⟩

/-- a reachable state in which a call has returned the write error of its first try:
nothing is pending (so `C11_reuse`'s hypothesis is met and its conclusion visible) -/
example : ∃ s, Reachable cfgPark s ∧ (getC s 0).pc = .returned .writeErr ∧ s.pending.get 5 = none :=
  ⟨_, ⟨[.call 0, .lock 0, .register 0, .transmitErr 0, .cancel1 0, .lock 0, .cancel2 0, .ret 0], rfl⟩,
    by decide, by decide⟩

end Dhcp.Client.LTS
