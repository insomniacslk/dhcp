import Dhcp.V4.Domain
import DhcpProofs.Lemmas.V4RoundTrip
/-
  C01 — DHCPv4 encode→decode preserves every header field and option value.
-/
namespace Dhcp.V4

/-- **C01 (round trip).** For every packet of the encodable domain — any
number of options, values of any length (empty, > 255, > 510, …) — encoding
succeeds and decoding the bytes returns the packet itself, up to the 4-byte
form of its addresses. -/
theorem C01_roundtrip (p : Pkt4) (h : Encodable p) :
    ∃ b, enc4 p = .ok b ∧ dec4 b = .ok (norm p) :=
  enc4_dec4 p h

/-- **C01 (options byte for byte).** The decoded option set is the encoded
one: same codes, each value byte for byte. -/
theorem C01_options (p : Pkt4) (h : Encodable p) :
    ∃ b q, enc4 p = .ok b ∧ dec4 b = .ok q ∧ ∀ c, q.opts.f c = p.opts.f c := by
  obtain ⟨b, h1, h2⟩ := enc4_dec4 p h
  exact ⟨b, norm p, h1, h2, fun _ => rfl⟩

/-- **C01 (header fields).** Every header field survives; addresses come back
as the 4 bytes that were written. -/
theorem C01_header (p : Pkt4) (h : Encodable p) :
    ∃ b q, enc4 p = .ok b ∧ dec4 b = .ok q ∧ q.op = p.op ∧ q.htype = p.htype ∧ q.hw = p.hw ∧
      q.hops = p.hops ∧ q.xid = p.xid ∧ q.secs = p.secs ∧ q.flags = p.flags ∧
      q.sname = p.sname ∧ q.file = p.file ∧
      q.ciaddr = some (ip4 p.ciaddr) ∧ q.yiaddr = some (ip4 p.yiaddr) ∧
      q.siaddr = some (ip4 p.siaddr) ∧ q.giaddr = some (ip4 p.giaddr) := by
  obtain ⟨b, h1, h2⟩ := enc4_dec4 p h
  exact ⟨b, norm p, h1, h2, rfl, rfl, rfl, rfl, rfl, rfl, rfl, rfl, rfl, rfl, rfl, rfl, rfl⟩

/-- **C01 (totality of the encoder, guard stated not hidden).** `ToBytes`
panics exactly when some address is non-nil and neither 4-byte nor
IPv4-mapped — the inputs the domain excludes. -/
theorem C01_enc_panic_iff (p : Pkt4) :
    enc4 p = .panic ↔ ¬ (ipOK p.ciaddr ∧ ipOK p.yiaddr ∧ ipOK p.siaddr ∧ ipOK p.giaddr) :=
  enc4_panic_iff p

/-- Non-vacuity: a packet with a 600-byte option (three instances on the wire),
an empty option and option 82 meets the hypotheses. -/
example : Encodable
    { op := 1, htype := 1, hw := [1, 2, 3, 4, 5, 6], hops := 0, xid := [9, 9, 9, 9], secs := 0,
      flags := 32768, ciaddr := none, yiaddr := some [10, 0, 0, 1], siaddr := none, giaddr := none,
      sname := [97], file := [], opts := (((Opts.empty.set 53 [1]).set 43 (zeros 600)).set 80 []).set 82 [1, 1, 65] } :=
  { htype := by decide, hw := by decide, xid := by decide, secs := by decide, flags := by decide,
    ci := by simp [ipOK], yi := by simp [ipOK, to4], si := by simp [ipOK], gi := by simp [ipOK],
    sname_len := by decide, sname_nul := by decide, file_len := by decide, file_nul := by decide,
    no_pad := by simp [Opts.set, Opts.empty], no_end := by simp [Opts.set, Opts.empty] }

end Dhcp.V4
