import Dhcp.Client.Lease
import DhcpProofs.Lemmas.Lease
import DhcpProofs.Lemmas.Lease6
import DhcpProofs.Props.C15
import DhcpProofs.Props.C16
import DhcpProofs.Props.C10
import DhcpProofs.Lemmas.ClientRefine
/-
  C13 — lease acquisition follows the exchange rules.  Property theorems only;
  helper lemmas live in DhcpProofs/Lemmas/Lease.lean, Lease6.lean and (for the
  refinement section) ClientRefine.lean.

  Every theorem is for EVERY response stream (any length, any order and
  multiplicity, any packets: several servers, late, duplicated or hostile
  replies — undecodable datagrams and datagrams for other transactions never
  reach the stream: that is C10), every offer / lease / advertise, every
  transaction id and every list of user modifiers.  `stream` is what the
  routed channel delivers to the call (see Dhcp/Client/Lease.lean for the
  abstraction; the section "The abstract call IS the timed
  call" of this file proves that C11/C12's timed machine run on the routed stream returns
  exactly this call's answer, and says precisely what is not covered).

  `Completes offer p` is the test of the property text: message type ACK or
  NAK and a server identifier `Equal` (net.IP.Equal) to the offer's.

  Where the code does something other than the property text says, the theorem
  states what the code does and the stronger reading is kept as a
  `def …_full : Prop` with a proved `…_counterexample : ¬ …_full`.
-/
namespace Dhcp.Client.Lease
open Dhcp.V4

/-- **C13 (matcher of RequestFromOffer and Renew).**
`IsAll(IsCorrectServer(offer.ServerIdentifier()), IsMessageType(Ack, Nak))`
accepts exactly the packets whose typed message type is ACK or NAK and whose
typed server identifier is `Equal` to the offer's. -/
theorem C13_matcher (offer p : Pkt4) : ackNakMatcher offer p = true ↔ Completes offer p :=
  ackNakMatcher_iff offer p

/-- **C13 (the two typed accessors).** `MessageType()` is option 53 when that
is exactly one byte, else 0; `ServerIdentifier()` is option 54 when that is
exactly four bytes, else nil. -/
theorem C13_accessors (p : Pkt4) :
    messageType p = (match p.opts.get optMessageType with
      | some [b] => b
      | _ => 0) ∧
    serverIdentifier p = (match p.opts.get optServerID with
      | some [a, b, c, d] => some [a, b, c, d]
      | _ => none) :=
  ⟨messageType_eq p, serverIdentifier_eq p⟩

/-- **C13 (`net.IP.Equal` as `IsCorrectServer` uses it).** nil equals nil;
addresses of equal length are compared bytewise; a 4-byte address equals
exactly its 16-byte IPv4-mapped form; a 4-byte address never equals nil. -/
theorem C13_ip_equal :
    ipEqual none none = true ∧
    (∀ a b : Bytes, a.length = b.length → (ipEqual (some a) (some b) = true ↔ a = b)) ∧
    (∀ a b : Bytes, a.length = 4 → b.length = 16 →
      (ipEqual (some a) (some b) = true ↔ b = v4InV6Prefix ++ a)) ∧
    (∀ a : Bytes, a.length = 4 → ipEqual (some a) none = false ∧ ipEqual none (some a) = false) :=
  ⟨ipEqual_refl none, fun _ _ h => ipEqual_same_len h, fun _ _ ha hb => ipEqual_4_16 ha hb,
   fun _ h => ⟨ipEqual_some_none h, ipEqual_none_some h⟩⟩

/-- **C13 (REQUEST fields)**, via `C15_request_from_offer`: the REQUEST that
`RequestFromOffer` hands to `SendAndRead` carries the offer's hardware address
(= the client's: routed offers are filtered by it, see `C13_request_dora`), the
offered address as option 50, the offer's option 54 verbatim (absent when the
offer has none), the offer's transaction id, message type REQUEST (raw and
through the typed accessor) and maximum message size 1500 — each for every user
modifier list none of whose members writes that field. -/
theorem C13_request_fields (xid : Bytes) (offer : Pkt4) (user : List Modifier) :
    (NoWrite user .hw → (requestPkt xid offer user).hw = offer.hw) ∧
    (NoWrite user (.opt optRequestedIP) →
      (requestPkt xid offer user).opts.get optRequestedIP = some (ipTo4Bytes offer.yiaddr) ∧
      (∀ b, offer.yiaddr = some b → b.length = 4 →
        (requestPkt xid offer user).opts.get optRequestedIP = some b)) ∧
    (NoWrite user (.opt optServerID) →
      (∀ v, offer.opts.get optServerID = some v → v ≠ [] →
        (requestPkt xid offer user).opts.get optServerID = some v) ∧
      ((requestPkt xid offer user).opts.get optServerID ≠ none ↔
        ∃ v, offer.opts.get optServerID = some v ∧ v ≠ [])) ∧
    (NoWrite user .xid → (requestPkt xid offer user).xid = offer.xid) ∧
    (NoWrite user (.opt optMessageType) →
      (requestPkt xid offer user).opts.get optMessageType = some [mtRequest] ∧
      messageType (requestPkt xid offer user) = mtRequest) ∧
    (NoWrite user (.opt optMaxMsgSize) →
      (requestPkt xid offer user).opts.get optMaxMsgSize = some [5, 220]) := by
  have h15 := C15_request_from_offer xid offer (prependModifiers user [mmsMod])
  obtain ⟨hx, hmt, hrip, hsid, _, _, hhw, _, _⟩ := h15
  refine ⟨fun h => hhw (noWrite_mms h), fun h => ?_, fun h => hsid (noWrite_mms h),
    fun h => hx (noWrite_mms h), fun h => ?_, fun h => build_mms _ xid user h⟩
  · refine ⟨hrip (noWrite_mms h), fun b hb hl => ?_⟩
    exact (C15_request_from_offer_partial xid offer _ (noWrite_mms h)).2 b hb hl
  · have := hmt (noWrite_mms h)
    refine ⟨this, ?_⟩
    rw [messageType_eq]
    unfold requestPkt
    rw [this]

/-- **C13 (Request = DiscoverOffer then RequestFromOffer, SAME modifiers).**
Without an OFFER in the stream routed to the DISCOVER call only the DISCOVER is
sent and the result is the no-response error.  Otherwise `offer` is the first
routed packet whose typed message type is OFFER (everything before it is
skipped), the second datagram is the REQUEST built from that offer with the
same user modifiers, and the result is that of `RequestFromOffer`; the REQUEST
carries the client's hardware address because routed packets do. -/
theorem C13_request_dora (xid xid2 hw : Bytes) (user : List Modifier) (s1 s2 : List Pkt4) :
    ((∀ q ∈ s1, messageType q ≠ mtOffer) →
      (request xid xid2 hw user s1 s2).sent = [discoverPkt xid hw user] ∧
      (request xid xid2 hw user s1 s2).res = .errNoResponse) ∧
    (∀ pre offer post, s1 = pre ++ offer :: post → messageType offer = mtOffer →
      (∀ q ∈ pre, messageType q ≠ mtOffer) →
      (request xid xid2 hw user s1 s2).sent = [discoverPkt xid hw user, requestPkt xid2 offer user] ∧
      (request xid xid2 hw user s1 s2).res = (requestFromOffer xid2 offer user s2).res ∧
      ((∀ q ∈ s1, q.hw = hw) → NoWrite user .hw → (requestPkt xid2 offer user).hw = hw)) := by
  constructor
  · intro h
    have : sendAndRead s1 offerMatcher = none := (find?_none_iff_of_spec offerMatcher_iff s1).2 h
    simp [request, discoverOffer, this]
  · intro pre offer post hs ho hpre
    have : sendAndRead s1 offerMatcher = some offer :=
      (find?_some_iff_of_spec offerMatcher_iff s1 offer).2 ⟨ho, pre, post, hs, hpre⟩
    refine ⟨by simp [request, discoverOffer, this, requestFromOffer],
            by simp [request, discoverOffer, this], fun hr hn => ?_⟩
    rw [(C13_request_fields xid2 offer user).1 hn]
    exact hr offer (by rw [hs]; simp)

/-- the DISCOVER of `DiscoverOffer` / `Request` (via `C15_discover`): the
client's hardware address, message type DISCOVER, the drawn transaction id,
maximum message size 1500. -/
theorem C13_discover_fields (xid hw : Bytes) (user : List Modifier) :
    (NoWrite user .hw → (discoverPkt xid hw user).hw = hw) ∧
    (NoWrite user (.opt optMessageType) →
      (discoverPkt xid hw user).opts.get optMessageType = some [mtDiscover]) ∧
    (NoWrite user .xid → (discoverPkt xid hw user).xid = xid) ∧
    (NoWrite user (.opt optMaxMsgSize) →
      (discoverPkt xid hw user).opts.get optMaxMsgSize = some [5, 220]) := by
  obtain ⟨hmt, hhw, _, _, _, hx⟩ := C15_discover xid hw (prependModifiers user [mmsMod])
  exact ⟨fun h => hhw (noWrite_mms h), fun h => hmt (noWrite_mms h),
    fun h => hx (noWrite_mms h), fun h => build_mms _ xid user h⟩

/-- **C13 (completes only on ACK/NAK from the offer's server; everything else
is ignored).** If `RequestFromOffer` yields a lease or a NAK error, the offer
in it is the offer given, the packet in it is in the stream, has message type
ACK or NAK and a server identifier Equal to the offer's, and EVERY packet that
arrived before it fails that test. -/
theorem C13_completes_only_on (xid : Bytes) (offer : Pkt4) (user : List Modifier) (stream : List Pkt4)
    (o r : Pkt4)
    (h : (requestFromOffer xid offer user stream).res = .lease o r ∨
         (requestFromOffer xid offer user stream).res = .errNak o r) :
    o = offer ∧ Completes offer r ∧
      ∃ pre post, stream = pre ++ r :: post ∧ ∀ q ∈ pre, ¬ Completes offer q := by
  have key : o = offer ∧ stream.find? (ackNakMatcher offer) = some r := by
    rcases h with h | h
    · exact ⟨((completion_lease_iff _ _ _ _).1 h).1, ((completion_lease_iff _ _ _ _).1 h).2.1⟩
    · exact ⟨((completion_nak_iff _ _ _ _).1 h).1, ((completion_nak_iff _ _ _ _).1 h).2.1⟩
  exact ⟨key.1, (find?_some_iff_of_spec (C13_matcher offer) stream r).1 key.2⟩

/-- **C13 (ACK ⇒ lease of THAT offer and THAT ack).** The first packet passing
the test, when its type is ACK, becomes the lease together with the offer —
whatever precedes it (none of which passes) and whatever follows. -/
theorem C13_ack_lease (xid : Bytes) (offer : Pkt4) (user : List Modifier) (pre post : List Pkt4) (ack : Pkt4)
    (hc : Completes offer ack) (ht : messageType ack = mtAck)
    (hpre : ∀ q ∈ pre, ¬ Completes offer q) :
    (requestFromOffer xid offer user (pre ++ ack :: post)).res = .lease offer ack := by
  exact (completion_lease_iff _ _ _ _).2
    ⟨rfl, (find?_some_iff_of_spec (C13_matcher offer) _ ack).2 ⟨hc, pre, post, rfl, hpre⟩, by rw [ht]; decide⟩

/-- **C13 (NAK ⇒ NAK error with that offer and that nak).** -/
theorem C13_nak (xid : Bytes) (offer : Pkt4) (user : List Modifier) (pre post : List Pkt4) (nak : Pkt4)
    (hc : Completes offer nak) (ht : messageType nak = mtNak)
    (hpre : ∀ q ∈ pre, ¬ Completes offer q) :
    (requestFromOffer xid offer user (pre ++ nak :: post)).res = .errNak offer nak := by
  exact (completion_nak_iff _ _ _ _).2
    ⟨rfl, (find?_some_iff_of_spec (C13_matcher offer) _ nak).2 ⟨hc, pre, post, rfl, hpre⟩, ht⟩

/-- **C13 (nothing passes the test ⇔ no-response error).** -/
theorem C13_none (xid : Bytes) (offer : Pkt4) (user : List Modifier) (stream : List Pkt4) :
    (requestFromOffer xid offer user stream).res = .errNoResponse ↔ ∀ q ∈ stream, ¬ Completes offer q := by
  exact (completion_none_iff _ _).trans (find?_none_iff_of_spec (C13_matcher offer) stream)

/-- **C13 (a well-formed offer: "bearing that server identifier" verbatim).**
When the offer's option 54 is four bytes long, a packet passes the test iff its
type is ACK or NAK and its option 54 is those same four bytes. -/
theorem C13_completes_wellformed_partial (offer p : Pkt4) (sid : Bytes)
    (hs : offer.opts.get optServerID = some sid) (hl : sid.length = 4) :
    Completes offer p ↔
      (messageType p = mtAck ∨ messageType p = mtNak) ∧ p.opts.get optServerID = some sid := by
  unfold Completes
  rw [ipEqual_serverIdentifier, serverIdentifier_of_len4 hs hl]
  refine and_congr_right fun _ => ⟨fun he => ?_, fun he => serverIdentifier_of_len4 he hl⟩
  rcases serverIdentifier_cases p with hn | ⟨v, hv, _, hraw⟩
  · rw [hn] at he; cases he
  · rw [hraw, ← hv, he]

/-- The stronger reading "a completing packet BEARS the offering server's
identifier": it carries a non-empty option 54 and the offer carries the same. -/
def C13_completes_bearing_full : Prop :=
  ∀ (xid : Bytes) (offer : Pkt4) (user : List Modifier) (stream : List Pkt4) (o r : Pkt4),
    (requestFromOffer xid offer user stream).res = .lease o r →
    ∃ v, v ≠ [] ∧ r.opts.get optServerID = some v ∧ offer.opts.get optServerID = some v

private def pkt (mt : UInt8) (yi : Bytes) (sid : Option Bytes) : Pkt4 :=
  { op := 2, htype := 1, hw := [2, 0, 0, 0, 0, 1], hops := 0, xid := [1, 2, 3, 4], secs := 0,
    flags := 0, ciaddr := some [0, 0, 0, 0], yiaddr := some yi, siaddr := some [0, 0, 0, 0],
    giaddr := some [0, 0, 0, 0], sname := [], file := [],
    opts := match sid with
      | some s => (Opts.empty.set 53 [mt]).set 54 s
      | none => Opts.empty.set 53 [mt] }

/-- False of the model and of the code: an offer WITHOUT a (four-byte) server
identifier makes `IsCorrectServer(nil)` accept exactly the replies without one:
here an ACK with no option 54 at all completes the exchange. -/
theorem C13_completes_bearing_counterexample : ¬ C13_completes_bearing_full := by
  intro h
  have hl := C13_ack_lease [0, 0, 0, 0] (pkt 2 [10, 0, 0, 50] none) [] [] [] (pkt 5 [10, 0, 0, 66] none)
    (by decide) (by decide) (by simp)
  obtain ⟨v, hv, hr, _⟩ := h _ _ _ _ _ _ hl
  have : (pkt 5 [10, 0, 0, 66] none).opts.get optServerID = none := by decide
  rw [this] at hr; cases hr

/-- With such an offer the replies that DO name their server are the ones
ignored: an ACK carrying a well-formed server identifier never completes. -/
theorem C13_offer_without_server_id (offer p : Pkt4) (h : serverIdentifier offer = none) :
    Completes offer p ↔
      (messageType p = mtAck ∨ messageType p = mtNak) ∧ serverIdentifier p = none := by
  unfold Completes
  rw [ipEqual_serverIdentifier, h]

/-- The clause "the REQUEST carries the offered address as requested address"
read for `Request` (the whole handshake) and EVERY user modifier list. -/
def C13_request_offered_address_full : Prop :=
  ∀ (xid xid2 hw : Bytes) (user : List Modifier) (s1 s2 : List Pkt4) (offer req : Pkt4),
    sendAndRead s1 offerMatcher = some offer →
    (request xid xid2 hw user s1 s2).sent = [discoverPkt xid hw user, req] →
    req.opts.get optRequestedIP = some (ipTo4Bytes offer.yiaddr)

/-- False of the model and of the code: `Request` applies the caller's
modifiers to BOTH messages, so the usual way of asking for one's previous
address in the DISCOVER (`WithOption(OptRequestedIPAddress(10.0.0.9))`) also
overwrites option 50 of the REQUEST: the server offered 10.0.0.50, the REQUEST
asks for 10.0.0.9. -/
theorem C13_request_offered_address_counterexample : ¬ C13_request_offered_address_full := by
  intro h
  have := h [0, 0, 0, 0] [0, 0, 0, 0] [2, 0, 0, 0, 0, 1] [.withOption (.requestedIP (some [10, 0, 0, 9]))]
    [pkt 2 [10, 0, 0, 50] (some [10, 0, 0, 1])] [] (pkt 2 [10, 0, 0, 50] (some [10, 0, 0, 1]))
    (requestPkt [0, 0, 0, 0] (pkt 2 [10, 0, 0, 50] (some [10, 0, 0, 1]))
      [.withOption (.requestedIP (some [10, 0, 0, 9]))])
    ((sendAndRead_some_iff _ _ _).2 ⟨by decide, [], [], rfl, by simp⟩) rfl
  revert this
  decide

/-- **C13 (renew)**, via `C15_renew`: the renewing REQUEST has the leased
address (the ACK's yiaddr) in the client-address field, the broadcast bit
clear, message type REQUEST, NO requested-address and NO server-identifier
option (unless a user modifier adds them), the ACK's hardware address and
transaction id; it completes by the same rule as `RequestFromOffer` with the
server identifier of the lease's OFFER: first packet passing
`Completes lease.offer`, ACK ⇒ lease of the old offer and the new ACK, NAK ⇒
NAK error with the old offer, none ⇒ no-response error. -/
theorem C13_renew (xid : Bytes) (l : Lease) (user : List Modifier) (stream : List Pkt4) :
    (renew xid l user stream).sent = [renewPkt xid l user] ∧
    (NoWrite user .ciaddr → (renewPkt xid l user).ciaddr = l.ack.yiaddr) ∧
    (NoWrite user .flags → isBroadcast (renewPkt xid l user) = false) ∧
    (NoWrite user (.opt optMessageType) →
      (renewPkt xid l user).opts.get optMessageType = some [mtRequest]) ∧
    (NoWrite user (.opt optRequestedIP) → (renewPkt xid l user).opts.get optRequestedIP = none) ∧
    (NoWrite user (.opt optServerID) → (renewPkt xid l user).opts.get optServerID = none) ∧
    (NoWrite user .hw → (renewPkt xid l user).hw = l.ack.hw) ∧
    (NoWrite user .xid → (renewPkt xid l user).xid = l.ack.xid) ∧
    (∀ o r, ((renew xid l user stream).res = .lease o r ∨ (renew xid l user stream).res = .errNak o r) →
      o = l.offer ∧ Completes l.offer r ∧
        ∃ pre post, stream = pre ++ r :: post ∧ ∀ q ∈ pre, ¬ Completes l.offer q) ∧
    (∀ pre post r, stream = pre ++ r :: post → Completes l.offer r → (∀ q ∈ pre, ¬ Completes l.offer q) →
      (messageType r = mtAck → (renew xid l user stream).res = .lease l.offer r) ∧
      (messageType r = mtNak → (renew xid l user stream).res = .errNak l.offer r)) ∧
    ((renew xid l user stream).res = .errNoResponse ↔ ∀ q ∈ stream, ¬ Completes l.offer q) := by
  obtain ⟨hci, hfl, hmt, hrip, hsid, _, hx, hhw⟩ := C15_renew xid l.ack (prependModifiers user [mmsMod])
  refine ⟨rfl, fun h => hci (noWrite_mms h), fun h => (hfl (noWrite_mms h)).1,
    fun h => hmt (noWrite_mms h), fun h => hrip (noWrite_mms h),
    fun h => hsid (noWrite_mms h), fun h => hhw (noWrite_mms h),
    fun h => hx (noWrite_mms h), ?_, ?_, ?_⟩
  · intro o r h
    exact C13_completes_only_on xid l.offer user stream o r h
  · intro pre post r hs hc hpre
    subst hs
    exact ⟨fun ht => C13_ack_lease xid l.offer user pre post r hc ht hpre,
           fun ht => C13_nak xid l.offer user pre post r hc ht hpre⟩
  · exact C13_none xid l.offer user stream

/-- The reading "a renewal is completed by the ACK of the server that granted
the lease": an ACK in the stream carrying the same (non-empty) server
identifier as the lease's ACK completes it. -/
def C13_renew_ack_server_full : Prop :=
  ∀ (xid : Bytes) (l : Lease) (user : List Modifier) (stream : List Pkt4) (a : Pkt4) (sid : Bytes),
    a ∈ stream → messageType a = mtAck → sid ≠ [] →
    l.ack.opts.get optServerID = some sid → a.opts.get optServerID = some sid →
    (renew xid l user stream).res ≠ .errNoResponse

/-- False of the model and of the code: `Renew` keys on the server identifier
of `lease.Offer`, never on the ACK's.  A lease whose OFFER had no option 54 but
whose ACK names server 10.0.0.1 cannot be renewed by that server: its
(well-formed) renewal ACK is ignored and the call ends with the no-response
error. -/
theorem C13_renew_ack_server_counterexample : ¬ C13_renew_ack_server_full := by
  intro h
  refine h [0, 0, 0, 0] ⟨pkt 2 [10, 0, 0, 50] none, pkt 5 [10, 0, 0, 50] (some [10, 0, 0, 1])⟩ []
    [pkt 5 [10, 0, 0, 50] (some [10, 0, 0, 1])] (pkt 5 [10, 0, 0, 50] (some [10, 0, 0, 1])) [10, 0, 0, 1]
    (by simp) (by decide) (by decide) (by decide) (by decide) ?_
  rw [(C13_renew _ _ _ _).2.2.2.2.2.2.2.2.2.2]
  decide

/-- **C13 (release)**, via `C15_release`: exactly ONE datagram is written; it is
a RELEASE with the leased address in the client-address field, the ACK's
hardware address, broadcast bit clear, the ACK's server identifier copied;
its destination is (the RAW option 54 of the lease's ACK, port 67). -/
theorem C13_release (xid : Bytes) (l : Lease) (user : List Modifier) :
    release xid l user = [(releasePkt xid l user, (releaseDestIP l, 67))] ∧
    (NoWrite user (.opt optMessageType) →
      (releasePkt xid l user).opts.get optMessageType = some [mtRelease]) ∧
    (NoWrite user .ciaddr → (releasePkt xid l user).ciaddr = l.ack.yiaddr) ∧
    (NoWrite user .hw → (releasePkt xid l user).hw = l.ack.hw) ∧
    (NoWrite user .flags → isBroadcast (releasePkt xid l user) = false) ∧
    (NoWrite user (.opt optServerID) → ∀ v, l.ack.opts.get optServerID = some v → v ≠ [] →
      (releasePkt xid l user).opts.get optServerID = some v) ∧
    (∀ v, l.ack.opts.get optServerID = some v → v ≠ [] → releaseDestIP l = some v) ∧
    ((l.ack.opts.get optServerID = none ∨ l.ack.opts.get optServerID = some []) → releaseDestIP l = none) := by
  obtain ⟨hmt, hci, hhw, hfl, _, hsid⟩ := C15_release xid l.ack user
  refine ⟨rfl, hmt, hci, hhw, fun h => (hfl h).1, fun h => (hsid h).1, ?_, ?_⟩
  · intro v hv hne
    unfold releaseDestIP
    rw [hv]
    cases v with
    | nil => exact absurd rfl hne
    | cons a as => rfl
  · intro h
    unfold releaseDestIP
    rcases h with h | h <;> rw [h] <;> rfl

/-- The reading "the RELEASE goes to the lease's server": the destination is an
IPv4 address (four bytes). -/
def C13_release_dest_full : Prop :=
  ∀ (xid : Bytes) (l : Lease) (user : List Modifier) (d : Pkt4 × (IP × Nat)),
    d ∈ release xid l user → ∃ a : Bytes, d.2.1 = some a ∧ a.length = 4

/-- False of the model and of the code: the destination is the raw option 54
of the ACK, unvalidated — a lease whose ACK has no option 54 (the case in which
an offer without one was completed) releases to the nil address, port 67. -/
theorem C13_release_dest_counterexample : ¬ C13_release_dest_full := by
  intro h
  obtain ⟨a, ha, _⟩ := h [0, 0, 0, 0] ⟨pkt 2 [10, 0, 0, 50] none, pkt 5 [10, 0, 0, 50] none⟩ [] _
    (List.mem_singleton.2 rfl)
  have : releaseDestIP ⟨pkt 2 [10, 0, 0, 50] none, pkt 5 [10, 0, 0, 50] none⟩ = none := by decide
  simp only at ha
  rw [this] at ha; cases ha

/-- **C13 (inform).** One INFORM with the client's hardware address and the
given local address; answer = the first routed packet whose typed message type
is ACK, whatever its server identifier. -/
theorem C13_inform (xid hw : Bytes) (localIP : IP) (user : List Modifier) (stream : List Pkt4) :
    (inform xid hw localIP user stream).sent = [newInform xid hw localIP user] ∧
    (∀ r, (inform xid hw localIP user stream).res = some r ↔
      messageType r = mtAck ∧ ∃ pre post, stream = pre ++ r :: post ∧ ∀ q ∈ pre, messageType q ≠ mtAck) ∧
    ((inform xid hw localIP user stream).res = none ↔ ∀ q ∈ stream, messageType q ≠ mtAck) := by
  have hm : ∀ q, isMessageType mtAck [] q = true ↔ messageType q = mtAck := by
    intro q; simp [isMessageType_iff]
  exact ⟨rfl, find?_some_iff_of_spec hm stream, find?_none_iff_of_spec hm stream⟩

section V6
open Dhcp.V6

/-- **C13 (v6 solicit).** The SOLICIT built without caller modifiers carries a
DUID-LLT client id of the hardware address, the option request, elapsed-time 0
and an IA_NA whose IAID is the last four octets of the hardware address; the
answer is the first routed message whose type is ADVERTISE (routing = same
transaction id, C10); a hardware address shorter than four octets is a builder
error and nothing is sent. -/
theorem C13_v6_solicit (xid : Bytes) (time : Nat) (hw : Bytes) (stream : List Msg6) :
    (4 ≤ hw.length →
      (solicit xid time hw [] stream).sent =
        [.msg mtSolicit xid
          [.clientID (.llt hwTypeEthernet time hw), .oro [ocDNS, ocDomainSearchList], .elapsed 0,
           .iana (copyInto 4 (hw.drop (hw.length - 4))) 0 0 []]] ∧
      (∀ r, (solicit xid time hw [] stream).res = .msg r ↔
        r.typ = mtAdvertise ∧ ∃ pre post, stream = pre ++ r :: post ∧ ∀ q ∈ pre, q.typ ≠ mtAdvertise) ∧
      ((solicit xid time hw [] stream).res = .errNoResponse ↔ ∀ q ∈ stream, q.typ ≠ mtAdvertise)) ∧
    (hw.length < 4 → ∀ mods, (solicit xid time hw mods stream).sent = [] ∧
      (solicit xid time hw mods stream).res = .errBuild) := by
  have hm : ∀ q : Msg6, isMessageType6 mtAdvertise [] q = true ↔ q.typ = mtAdvertise := by
    intro q; simp [isMessageType6_iff]
  constructor
  · intro h
    unfold solicit
    rw [newSolicit_nil xid time hw h]
    exact ⟨rfl, fun r => (call6_msg_iff ..).trans (find?_some_iff_of_spec hm stream r),
      (call6_noResponse_iff ..).trans (find?_none_iff_of_spec hm stream)⟩
  · intro h mods
    unfold solicit
    rw [newSolicit_short xid time hw mods h]
    exact ⟨rfl, rfl⟩

/-- **C13 (v6 request)**, via `C16_request`: from an ADVERTISE with client id,
server id and a (well-typed) IA_NA the REQUEST has its OWN transaction id `xid`
(not the ADVERTISE's) and carries exactly: the advertise's first client id, its
first server id, elapsed-time 0, its FIRST IA_NA, its first IA_PD if any (no
further IA_NA/IA_PD, no IA_TA), the option request for DNS and domain search
list, the first vendor class if any.  The accepted answer is the FIRST REPLY
routed to the call (messages of other types carrying that transaction id are
passed over); a stream without REPLY is the no-response error. -/
theorem C13_v6_request (xid axid : Bytes) (os : List Opt6) (cid sid ia : Opt6) (stream : List Msg6)
    (hc : getOne ocClientID os = some cid) (hs : getOne ocServerID os = some sid)
    (hi : getOne ocIANA os = some ia) (hty : IANATyped os) :
    (request6 xid (.msg mtAdvertise axid os) [] stream).sent =
      [.msg V6.mtRequest xid
        ([cid, sid, .elapsed 0, ia] ++ (getOne ocIAPD os).toList ++
          [.oro [ocDNS, ocDomainSearchList]] ++ (getOne ocVendorClass os).toList)] ∧
    (∀ pre r post, stream = pre ++ r :: post → r.typ = mtReply → (∀ q ∈ pre, q.typ ≠ mtReply) →
      (request6 xid (.msg mtAdvertise axid os) [] stream).res = .msg r) ∧
    ((∀ q ∈ stream, q.typ ≠ mtReply) →
      (request6 xid (.msg mtAdvertise axid os) [] stream).res = .errNoResponse) := by
  have hm : ∀ q : Msg6, isMessageType6 mtReply [] q = true ↔ q.typ = mtReply := by
    intro q; simp [isMessageType6_iff]
  unfold request6
  rw [Dhcp.Props.C16_request xid axid os cid sid ia hc hs hi hty]
  exact ⟨rfl, fun pre r post hst hr hpre =>
      (call6_msg_iff ..).2 ((find?_some_iff_of_spec hm stream r).2 ⟨hr, pre, post, hst, hpre⟩),
    fun hall => (call6_noResponse_iff ..).2 ((find?_none_iff_of_spec hm stream).2 hall)⟩

/-- an ADVERTISE the builder refuses (wrong type, no client id, no server id,
no IA_NA) is an error of `Request` and nothing is sent; with user modifiers the
REQUEST is the one above with the modifiers applied in order (`C16_modifiers`). -/
theorem C13_v6_request_build (xid : Bytes) (adv : Msg6) (mods : List Mod6) (stream : List Msg6) :
    (newRequestFromAdvertise xid adv mods = .err →
      (request6 xid adv mods stream).sent = [] ∧ (request6 xid adv mods stream).res = .errBuild) ∧
    (∀ req, newRequestFromAdvertise xid adv mods = .ok req →
      (request6 xid adv mods stream).sent = [req] ∧
      (request6 xid adv mods stream).res =
        (match stream.find? (isMessageType6 mtReply []) with
         | some r => .msg r
         | none => .errNoResponse)) ∧
    newRequestFromAdvertise xid adv mods =
      (newRequestFromAdvertise xid adv []).bind (fun a => applyMods a mods) := by
  refine ⟨fun h => ?_, fun req h => ?_, (Dhcp.Props.C16_modifiers adv xid mods).2.1⟩
  · unfold request6; rw [h]; exact ⟨rfl, rfl⟩
  · unfold request6; rw [h]; exact ⟨rfl, rfl⟩

/-- **C13 (v6 request/reply pairing).** What `Request` returns is a REPLY
(since /repo commit 80184de; before it the matcher was nil and a second
ADVERTISE carrying the REQUEST's transaction id was returned as the answer). -/
theorem C13_v6_reply_type (xid : Bytes) (adv : Msg6) (mods : List Mod6) (stream : List Msg6) (r : Msg6)
    (h : (request6 xid adv mods stream).res = .msg r) : r.typ = mtReply := by
  unfold request6 at h
  cases hb : newRequestFromAdvertise xid adv mods <;> rw [hb] at h
  · simpa [isMessageType6] using List.find?_some ((call6_msg_iff ..).1 h)
  · cases h
  · cases h

private def exCid : Opt6 := .clientID (.ll 1 [2, 0, 0, 0, 0, 1])
private def exSid : Opt6 := .serverID (.ll 1 [2, 0, 0, 0, 0, 9])
private def exIana : Opt6 := .iana [0, 0, 0, 1] 0 0 [.iaaddr (some (zeros 15 ++ [7])) 100 200 []]
private def exAdv : Msg6 := .msg mtAdvertise [1, 2, 3] [exCid, exSid, exIana]

/-- non-vacuity: a late ADVERTISE before the REPLY is passed over -/
example : (request6 [9, 9, 9] exAdv []
    [.msg mtAdvertise [9, 9, 9] [exCid, exSid], .msg mtReply [9, 9, 9] [exCid, exSid, exIana]]).res =
    .msg (.msg mtReply [9, 9, 9] [exCid, exSid, exIana]) := by rfl

/-- **C13 (v6 rapid solicit).** The SOLICIT carries a rapid-commit option.  The
first routed message of type REPLY or ADVERTISE decides: a REPLY is returned
directly and nothing more is sent; an ADVERTISE leads to `Request` from that
advertise with the caller's modifiers (a second datagram), whose outcome is the
outcome; no such message is the no-response error. -/
theorem C13_v6_rapid (xid xid2 : Bytes) (time : Nat) (hw : Bytes) (mods : List Mod6) (s1 s2 : List Msg6)
    (sol : Msg6) (hb : newSolicit xid time hw (mods ++ [.rapidCommit]) = .ok sol) :
    getOne ocRapidCommit sol.opts = some (.generic ocRapidCommit []) ∧
    (∀ pre m post, s1 = pre ++ m :: post → (∀ q ∈ pre, q.typ ≠ mtReply ∧ q.typ ≠ mtAdvertise) →
      (m.typ = mtReply →
        (rapidSolicit xid xid2 time hw mods s1 s2).sent = [sol] ∧
        (rapidSolicit xid xid2 time hw mods s1 s2).res = .msg m) ∧
      (m.typ = mtAdvertise →
        (rapidSolicit xid xid2 time hw mods s1 s2).sent = sol :: (request6 xid2 m mods s2).sent ∧
        (rapidSolicit xid xid2 time hw mods s1 s2).res = (request6 xid2 m mods s2).res)) ∧
    ((∀ q ∈ s1, q.typ ≠ mtReply ∧ q.typ ≠ mtAdvertise) →
      (rapidSolicit xid xid2 time hw mods s1 s2).sent = [sol] ∧
      (rapidSolicit xid xid2 time hw mods s1 s2).res = .errNoResponse) := by
  have hm : ∀ q : Msg6, isMessageType6 mtReply [mtAdvertise] q = true ↔ q.typ = mtReply ∨ q.typ = mtAdvertise := by
    intro q; simp [isMessageType6_iff]
  refine ⟨newSolicit_rapid hb, ?_, ?_⟩
  · intro pre m post hs hpre
    have hfind : ∀ (hmt : m.typ = mtReply ∨ m.typ = mtAdvertise),
        sendAndRead6 s1 (some (isMessageType6 mtReply [mtAdvertise])) = some m := fun hmt =>
      (find?_some_iff_of_spec hm s1 m).2 ⟨hmt, pre, post, hs, fun q hq => not_or.2 (hpre q hq)⟩
    constructor
    · intro ht
      unfold rapidSolicit
      simp [hb, call6, hfind (.inl ht), ht]
    · intro ht
      unfold rapidSolicit
      have hd : ¬ (mtAdvertise = mtReply) := by decide
      simp [hb, call6, hfind (.inr ht), ht, hd]
  · intro hall
    have : sendAndRead6 s1 (some (isMessageType6 mtReply [mtAdvertise])) = none :=
      (find?_none_iff_of_spec hm s1).2 fun q hq => not_or.2 (hall q hq)
    unfold rapidSolicit
    simp [hb, call6, this]

/-- The reading "a RAPID-COMMIT reply is accepted directly": the REPLY returned
without a REQUEST having been sent carries a rapid-commit option. -/
def C13_v6_rapid_commit_full : Prop :=
  ∀ (xid xid2 : Bytes) (time : Nat) (hw : Bytes) (mods : List Mod6) (s1 s2 : List Msg6) (sol r : Msg6),
    (rapidSolicit xid xid2 time hw mods s1 s2).sent = [sol] →
    (rapidSolicit xid xid2 time hw mods s1 s2).res = .msg r →
    getOne ocRapidCommit r.opts ≠ none

/-- False of the model and of the code: `RapidSolicit` returns the first REPLY
with its transaction id whether or not it carries the rapid-commit option
(RFC 8415 section 18.2.1 says such a REPLY must be discarded). -/
theorem C13_v6_rapid_commit_counterexample : ¬ C13_v6_rapid_commit_full := by
  intro h
  have := h [7, 7, 7] [8, 8, 8] 0 [2, 0, 0, 0, 0, 1] [] [.msg mtReply [7, 7, 7] [exCid, exSid]] []
    (.msg mtSolicit [7, 7, 7]
      [.clientID (.llt 1 0 [2, 0, 0, 0, 0, 1]), .oro [23, 24], .elapsed 0, .iana [0, 0, 0, 1] 0 0 [],
       .generic 14 []])
    (.msg mtReply [7, 7, 7] [exCid, exSid]) rfl rfl
  revert this; decide

end V6

private def exOffer : Pkt4 := pkt 2 [10, 0, 0, 50] (some [10, 0, 0, 1])
private def ackFrom (s : Bytes) : Pkt4 := pkt 5 [10, 0, 0, 50] (some s)
private def nakFrom (s : Bytes) : Pkt4 := pkt 6 [0, 0, 0, 0] (some s)

/-- a wrong-server ACK, a duplicate OFFER, a NAK from another server and an ACK
with a malformed (five-byte) server identifier are all ignored; the right
server's ACK — which is followed by its duplicate and by a late NAK — makes the
lease, with THAT offer and THAT ack -/
example : (requestFromOffer [0, 0, 0, 0] exOffer []
      ([ackFrom [10, 0, 0, 2], exOffer, nakFrom [10, 0, 0, 2], ackFrom [10, 0, 0, 1, 0]] ++
        ackFrom [10, 0, 0, 1] :: [ackFrom [10, 0, 0, 1], nakFrom [10, 0, 0, 1]])).res =
    .lease exOffer (ackFrom [10, 0, 0, 1]) :=
  C13_ack_lease _ _ _ _ _ _ (by decide) (by decide) (by decide)

/-- a NAK from another server is ignored, the offering server's NAK is the error -/
example : (requestFromOffer [0, 0, 0, 0] exOffer []
      ([nakFrom [10, 0, 0, 2]] ++ nakFrom [10, 0, 0, 1] :: [ackFrom [10, 0, 0, 1]])).res =
    .errNak exOffer (nakFrom [10, 0, 0, 1]) :=
  C13_nak _ _ _ _ _ _ (by decide) (by decide) (by decide)

/-- only other servers answer: no-response error -/
example : (requestFromOffer [0, 0, 0, 0] exOffer []
      [ackFrom [10, 0, 0, 2], nakFrom [10, 0, 0, 3], exOffer, pkt 5 [10, 0, 0, 50] none]).res = .errNoResponse :=
  (C13_none _ _ _ _).2 (by decide)

/-- the REQUEST for `exOffer`: option 50 = 10.0.0.50, option 54 = 10.0.0.1,
the offer's xid and hardware address, 1500 as maximum message size -/
example : (requestPkt [9, 9, 9, 9] exOffer []).opts.get 50 = some [10, 0, 0, 50] ∧
    (requestPkt [9, 9, 9, 9] exOffer []).opts.get 54 = some [10, 0, 0, 1] ∧
    (requestPkt [9, 9, 9, 9] exOffer []).opts.get 57 = some [5, 220] ∧
    (requestPkt [9, 9, 9, 9] exOffer []).xid = [1, 2, 3, 4] ∧
    (requestPkt [9, 9, 9, 9] exOffer []).hw = [2, 0, 0, 0, 0, 1] := by decide

/-- renew and release of the lease (exOffer, ack): ciaddr, no 50/54 in the
renewal, release to 10.0.0.1:67 -/
example : (renewPkt [9, 9, 9, 9] ⟨exOffer, ackFrom [10, 0, 0, 1]⟩ []).ciaddr = some [10, 0, 0, 50] ∧
    (renewPkt [9, 9, 9, 9] ⟨exOffer, ackFrom [10, 0, 0, 1]⟩ []).opts.get 50 = none ∧
    (renewPkt [9, 9, 9, 9] ⟨exOffer, ackFrom [10, 0, 0, 1]⟩ []).opts.get 54 = none ∧
    releaseDestIP ⟨exOffer, ackFrom [10, 0, 0, 1]⟩ = some [10, 0, 0, 1] ∧
    (releasePkt [9, 9, 9, 9] ⟨exOffer, ackFrom [10, 0, 0, 1]⟩ []).ciaddr = some [10, 0, 0, 50] := by decide

/-! ## The abstract call IS the timed call (refinement)

Everything above is about `sendAndRead stream match = stream.find? match`.  This
section proves that the timed machine of ONE `SendAndRead` call
(`Dhcp.Client.Timed.runObs`, the subject of C11/C12) run on a routed stream
returns exactly that — so that C13's results hold of the exchanges run on the
timed machine (`requestTimed` &c., Dhcp/Client/Refine.lean), not only of the
abstraction — and restates C10's "first acceptable in routing order" of the
interleaving model as `List.find?`.

Vocabulary (Dhcp/Client/Refine.lean; `OrderedObs` and `stopOutcome` are defined in
Lemmas/ClientRefine.lean, `Completes` in Lemmas/Lease.lean): `arr : List (Int × α)` is the routed
stream with the instant (from the start of the call) at which the caller's
`select` receives each packet; `obsOf m fl arr` its observation sequence
(`acc`/`rej` by the matcher `m`, tag = position, quiescence flag `fl i`);
`streamOf arr` the packets; `answer arr ret` reads `.resp i` back as packet
number `i`; `Ordered arr`: instants ≥ 0 and non-decreasing; `InBudget T n arr`:
every instant strictly before `callBudget T n = T·(2^n − 1)` (no condition when
`n < 0`); `timedCall T n m arr H = answer arr (runObs T n (obsOf m quiescent arr) H).ret`. -/

section Refinement
open Dhcp.Client.Refine Dhcp.Client.Timed

/-- **C13 (the call refines the timed machine).** Timeout `T > 0`, ANY retry
count `n` (`n ≥ 1`, `n = 0`, or the retry-for-ever `n < 0`), any matcher, a
routed stream in time order whose arrivals all lie strictly before the budget,
ANY quiescence flags (every arrival may or may not race with a per-try
deadline), any horizon:
(1) the packet the timed machine hands back is `find?` of the stream — the
abstract call;
(2) when `find?` is `some p` the machine returns `.resp i` AT `p`'s arrival
instant, `i` the position of `p`, everything before position `i` rejected;
(3) when `find?` is `none` the machine returns the no-response error at the
budget after exactly `n` transmissions at `T·(2^k − 1)` (`n ≥ 0`), and is
still running at every horizon (`n < 0`). -/
theorem C13_call_refines_timed {α : Type} (T n : Int) (m : α → Bool) (fl : Nat → Bool) (arr : List (Int × α))
    (H : Int) (hT : 0 < T) (ho : Ordered arr) (hb : InBudget T n arr) :
    answer arr (runObs T n (obsOf m fl arr) H).ret = (streamOf arr).find? m ∧
    (∀ p, (streamOf arr).find? m = some p →
      ∃ i t, arr[i]? = some (t, p) ∧ (∀ j q, j < i → arr[j]? = some q → m q.2 = false) ∧
        (runObs T n (obsOf m fl arr) H).ret = some (t, .resp i)) ∧
    ((streamOf arr).find? m = none →
      (0 ≤ n → callBudget T n ≤ H →
        runObs T n (obsOf m fl arr) H =
          ⟨(List.range n.toNat).map (fun k => T * (2 ^ k - 1)), some (callBudget T n, .noResp)⟩) ∧
      (n < 0 → (∀ a ∈ arr, a.1 ≤ H) → 0 ≤ H → (runObs T n (obsOf m fl arr) H).ret = none)) := by
  refine ⟨by simpa using (sendAndRead_refines hT m fl arr H ho hb).answer_eq [], fun p hf => ?_,
    fun hf => refines_none hT m fl arr hf H⟩
  obtain ⟨i, t, hi, hpre, hrun⟩ := refines_some (n := n) hT m fl arr ho p hf
  exact ⟨i, t, hi, hpre, by simpa using hrun [] H (hb.lt (List.mem_of_getElem? hi))⟩

/-- **C13 (the abstract calls of the lease model are timed calls).** For the
matchers of nclient4 and of nclient6 (nil matcher included). -/
theorem C13_call_timed (T n : Int) (H : Int) (hT : 0 < T) :
    (∀ (mtch : Matcher) (arr : List (Int × Pkt4)), Ordered arr → InBudget T n arr →
      timedCall T n mtch arr H = sendAndRead (streamOf arr) mtch) ∧
    (∀ (mtch : Matcher6) (arr : List (Int × V6.Msg6)), Ordered arr → InBudget T n arr →
      timedCall T n (matcher6 mtch) arr H = sendAndRead6 (streamOf arr) mtch) := by
  refine ⟨fun mtch arr ho hb => timedCall_eq_find hT mtch arr H ho hb, fun mtch arr ho hb => ?_⟩
  rw [timedCall_eq_find hT _ arr H ho hb]
  cases mtch with
  | none => rw [sendAndRead6_nil_matcher]; cases streamOf arr <;> rfl
  | some f => rfl

/-- **C13 (accepted during try `k`: transmissions).** The statement of `C12_stop` on a
routed stream (both are `quiet_then_terminal_cases`, here through `refines_split`): the
accepted packet applied at quiescence at instant `t` — the machine finds the
try `k` with `T·(2^k − 1) ≤ t < T·(2^(k+1) − 1)`, has transmitted exactly `k + 1`
times and nothing follows, whatever is observed later. -/
theorem C13_call_transmissions {α : Type} (T n : Int) (m : α → Bool) (fl : Nat → Bool) (pre post : List (Int × α))
    (t : Int) (p : α) (rest : List Obs) (H : Int) (hT : 0 < T) (ho : Ordered (pre ++ (t, p) :: post))
    (hpre : ∀ a ∈ pre, m a.2 = false) (hp : m p = true) (hfl : fl pre.length = true)
    (hb : n < 0 ∨ t < callBudget T n) :
    ∃ k : Nat, T * (2 ^ k - 1) ≤ t ∧ t < T * (2 ^ (k + 1) - 1) ∧ (n < 0 ∨ (k : Int) < n) ∧
      runObs T n (obsOf m fl (pre ++ (t, p) :: post) ++ rest) H =
        ⟨(List.range (k + 1)).map (fun j => T * (2 ^ j - 1)), some (t, .resp pre.length)⟩ := by
  obtain ⟨k, h1, _, h3, hk, h⟩ := refines_split (n := n) hT m fl pre post t p ho hpre hp rest H hb
  exact ⟨k, h1, h3 hfl, hk, h⟩

/-- **C13 (cancelled context / Close).** The caller observes its context's end
(`k = ctx`) or the client's Close (`k = closed`) at instant `c`, strictly before
the budget, after the part `pre` of the routed stream: the packet returned is
`find?` on `pre` ALONE (the packets `post` that arrive later are never looked
at); when that is `none` the call returns at `c` with the context's error /
the no-response error. -/
theorem C13_call_cancelled {α : Type} (T n : Int) (m : α → Bool) (fl : Nat → Bool) (pre post : List (Int × α))
    (c : Int) (k : Kind) (tag : Nat) (after : Bool) (H : Int) (hT : 0 < T) (hk : k = .ctx ∨ k = .closed)
    (ho : Ordered pre) (hc : ∀ a ∈ pre, a.1 ≤ c) (h0 : 0 ≤ c) (hb : n < 0 ∨ c < callBudget T n) :
    answer (pre ++ post)
      (runObs T n (obsOf m fl pre ++ ⟨c, k, tag, after⟩ :: obsFrom m fl pre.length post) H).ret =
      (streamOf pre).find? m ∧
    ((streamOf pre).find? m = none →
      (runObs T n (obsOf m fl pre ++ ⟨c, k, tag, after⟩ :: obsFrom m fl pre.length post) H).ret =
        some (c, stopOutcome k)) := by
  exact ⟨(refines_stop hT m fl pre c k hk tag after _ H ho hc h0 hb).answer_eq post, fun hf =>
    refines_stop_none hT m fl pre c k hk tag after _ H hc h0 hb (obsFrom_quiet m fl 0 pre (find_none m pre hf))⟩

/-- **C13 (what arrives on or after the budget is not part of the call).**
`n ≥ 0`; `late` arrives at or after `T·(2^n − 1)` (applied at quiescence): the
result is `find?` on the arrivals strictly before the budget — a late packet
the matcher would accept is never returned. -/
theorem C13_call_late_ignored {α : Type} (T n : Int) (m : α → Bool) (live late : List (Int × α)) (H : Int)
    (hT : 0 < T) (hn : 0 ≤ n) (ho : Ordered live) (hb : ∀ a ∈ live, a.1 < callBudget T n)
    (hlate : ∀ a ∈ late, callBudget T n ≤ a.1) (hH : callBudget T n ≤ H) :
    answer (live ++ late) (runObs T n (obsOf m quiescent (live ++ late)) H).ret = (streamOf live).find? m := by
  exact (sendAndRead_refines_cut hT hn m quiescent live late H ho hb hlate (fun _ _ => rfl) hH).answer_eq late

/-- **C13 (datagrams the caller never sees do not matter).** `obs`: ANY
observation sequence in time order which, once the `irr` observations
(datagrams of other transactions, undecodable ones, ones dropped by the
filters or lost between two tries: any number, any instants) are deleted, is
the observation sequence of the routed stream: same answer. -/
theorem C13_call_unseen_ignored {α : Type} (T n : Int) (m : α → Bool) (fl : Nat → Bool) (arr : List (Int × α))
    (obs : List Obs) (H : Int) (hT : 0 < T) (ho : OrderedObs obs)
    (hobs : obs.filter (fun o => o.kind != .irr) = obsOf m fl arr) (hb : InBudget T n arr) :
    answer arr (runObs T n obs H).ret = (streamOf arr).find? m := by
  simpa using (refines_with_irrelevant hT m fl arr obs H ho hobs hb).answer_eq []

/-- **C13 (every exchange of the lease model, run on the timed machine, is the
exchange over the abstract call).** Each call of an exchange gets its routed
stream with instants counted from the start of that call; all of them in time
order and within the budget.  Hence every `C13_*` theorem above about
`discoverOffer`, `requestFromOffer`, `request`, `renew`, `inform`, `call6`
(`solicit`, `request6`) holds verbatim of the timed versions. -/
theorem C13_exchanges_timed (T n : Int) (H : Int) (hT : 0 < T) :
    (∀ xid hw user (a : List (Int × Pkt4)), Ordered a → InBudget T n a →
      discoverOfferTimed T n xid hw user a H = discoverOffer xid hw user (streamOf a)) ∧
    (∀ xid offer user (a : List (Int × Pkt4)), Ordered a → InBudget T n a →
      requestFromOfferTimed T n xid offer user a H = requestFromOffer xid offer user (streamOf a)) ∧
    (∀ xid xid2 hw user (a1 a2 : List (Int × Pkt4)), Ordered a1 → InBudget T n a1 → Ordered a2 → InBudget T n a2 →
      requestTimed T n xid xid2 hw user a1 a2 H = request xid xid2 hw user (streamOf a1) (streamOf a2)) ∧
    (∀ xid l user (a : List (Int × Pkt4)), Ordered a → InBudget T n a →
      renewTimed T n xid l user a H = renew xid l user (streamOf a)) ∧
    (∀ xid hw localIP user (a : List (Int × Pkt4)), Ordered a → InBudget T n a →
      informTimed T n xid hw localIP user a H = inform xid hw localIP user (streamOf a)) ∧
    (∀ built (a : List (Int × V6.Msg6)) mtch, Ordered a → InBudget T n a →
      call6Timed T n built a mtch H = call6 built (streamOf a) mtch) := by
  have h4 := (C13_call_timed T n H hT).1
  have h6 := (C13_call_timed T n H hT).2
  refine ⟨fun xid hw user a ho hb => ?_, fun xid offer user a ho hb => ?_,
    fun xid xid2 hw user a1 a2 ho1 hb1 ho2 hb2 => ?_, fun xid l user a ho hb => ?_,
    fun xid hw localIP user a ho hb => ?_, fun built a mtch ho hb => ?_⟩
  · simp only [discoverOfferTimed, discoverOffer, h4 _ a ho hb]
  · simp only [requestFromOfferTimed, requestFromOffer, h4 _ a ho hb]
  · simp only [requestTimed, request, discoverOfferTimed, discoverOffer, requestFromOfferTimed, requestFromOffer,
      h4 _ a1 ho1 hb1, h4 _ a2 ho2 hb2]
    generalize sendAndRead (streamOf a1) offerMatcher = x
    cases x <;> rfl
  · simp only [renewTimed, renew, h4 _ a ho hb]
  · simp only [informTimed, inform, h4 _ a ho hb]
  · cases built <;> simp only [call6Timed, call6, h6 _ a ho hb]
    generalize sendAndRead6 (streamOf a) mtch = x
    cases x <;> rfl

/-- **C13 (DORA on the timed machine).** `Request` with client timeout `T` and
`n` tries.  The DISCOVER call's routed stream `pre1 ++ (t1, offer) :: post1`:
`offer` is the first packet of type OFFER; the REQUEST call's routed stream
`pre2 ++ (t2, r) :: post2` (instants from the start of the second call): `r` is
the first packet that `Completes offer` (ACK/NAK from the offer's server); both
in time order, `t1`, `t2` strictly before the budget.  Then: the DISCOVER call
returns at `t1` with packet number `|pre1|`, the REQUEST call at `t2` with packet
number `|pre2|`, two datagrams are handed to `SendAndRead` — the DISCOVER and the
REQUEST built from THAT offer — and the result is the lease `(offer, r)` when `r`
is an ACK, the NAK error `(offer, r)` when it is a NAK. -/
theorem C13_request_timed (T n : Int) (xid xid2 hw : Bytes) (user : List Modifier)
    (pre1 post1 pre2 post2 : List (Int × Pkt4)) (t1 t2 : Int) (offer r : Pkt4) (H : Int) (hT : 0 < T)
    (ho1 : Ordered (pre1 ++ (t1, offer) :: post1)) (ho2 : Ordered (pre2 ++ (t2, r) :: post2))
    (hb1 : n < 0 ∨ t1 < callBudget T n) (hb2 : n < 0 ∨ t2 < callBudget T n)
    (hoffer : messageType offer = mtOffer) (hpre1 : ∀ a ∈ pre1, messageType a.2 ≠ mtOffer)
    (hr : Completes offer r) (hpre2 : ∀ a ∈ pre2, ¬ Completes offer a.2) :
    (runObs T n (obsOf offerMatcher quiescent (pre1 ++ (t1, offer) :: post1)) H).ret = some (t1, .resp pre1.length) ∧
    (runObs T n (obsOf (ackNakMatcher offer) quiescent (pre2 ++ (t2, r) :: post2)) H).ret =
      some (t2, .resp pre2.length) ∧
    (requestTimed T n xid xid2 hw user (pre1 ++ (t1, offer) :: post1) (pre2 ++ (t2, r) :: post2) H).sent =
      [discoverPkt xid hw user, requestPkt xid2 offer user] ∧
    (messageType r = mtAck →
      (requestTimed T n xid xid2 hw user (pre1 ++ (t1, offer) :: post1) (pre2 ++ (t2, r) :: post2) H).res =
        .lease offer r) ∧
    (messageType r = mtNak →
      (requestTimed T n xid xid2 hw user (pre1 ++ (t1, offer) :: post1) (pre2 ++ (t2, r) :: post2) H).res =
        .errNak offer r) := by
  have hm1 : ∀ a ∈ pre1, offerMatcher a.2 = false := fun a ha =>
    Bool.not_eq_true _ ▸ mt (offerMatcher_iff _).1 (hpre1 a ha)
  have hm2 : ∀ a ∈ pre2, ackNakMatcher offer a.2 = false := fun a ha =>
    Bool.not_eq_true _ ▸ mt (C13_matcher offer _).1 (hpre2 a ha)
  have ha1 : offerMatcher offer = true := (offerMatcher_iff offer).2 hoffer
  have ha2 : ackNakMatcher offer r = true := (C13_matcher offer r).2 hr
  obtain ⟨_, _, _, _, _, hrun1⟩ := refines_split (n := n) hT offerMatcher quiescent pre1 post1 t1 offer ho1 hm1 ha1
    [] H hb1
  obtain ⟨_, _, _, _, _, hrun2⟩ := refines_split (n := n) hT (ackNakMatcher offer) quiescent pre2 post2 t2 r ho2 hm2
    ha2 [] H hb2
  rw [List.append_nil] at hrun1 hrun2
  have hc1 : timedCall T n offerMatcher (pre1 ++ (t1, offer) :: post1) H = some offer := by
    simp [timedCall, hrun1, answer]
  have hc2 : timedCall T n (ackNakMatcher offer) (pre2 ++ (t2, r) :: post2) H = some r := by
    simp [timedCall, hrun2, answer]
  refine ⟨by rw [hrun1], by rw [hrun2], ?_, fun ht => ?_, fun ht => ?_⟩
  · simp [requestTimed, discoverOfferTimed, requestFromOfferTimed, hc1]
  · simp only [requestTimed, discoverOfferTimed, requestFromOfferTimed, hc1, hc2]
    exact (completion_lease_iff _ _ _ _).2 ⟨rfl, rfl, by rw [ht]; decide⟩
  · simp only [requestTimed, discoverOfferTimed, requestFromOfferTimed, hc1, hc2]
    exact (completion_nak_iff _ _ _ _).2 ⟨rfl, rfl, ht⟩

/-- … and when no OFFER is routed to the DISCOVER call before its budget
(`n ≥ 0`, horizon past the budget) the timed DISCOVER call transmits `n` times,
fails with the no-response error at `T·(2^n − 1)`, only the DISCOVER is handed to
`SendAndRead` and `Request` fails with the no-response error. -/
theorem C13_request_timed_no_offer (T n : Int) (xid xid2 hw : Bytes) (user : List Modifier)
    (a1 a2 : List (Int × Pkt4)) (H : Int) (hT : 0 < T) (hn : 0 ≤ n) (hH : callBudget T n ≤ H)
    (hno : ∀ a ∈ a1, messageType a.2 ≠ mtOffer) :
    runObs T n (obsOf offerMatcher quiescent a1) H =
      ⟨(List.range n.toNat).map (fun k => T * (2 ^ k - 1)), some (callBudget T n, .noResp)⟩ ∧
    (requestTimed T n xid xid2 hw user a1 a2 H).sent = [discoverPkt xid hw user] ∧
    (requestTimed T n xid xid2 hw user a1 a2 H).res = .errNoResponse := by
  have hf : (streamOf a1).find? offerMatcher = none := (find?_none_iff_of_spec offerMatcher_iff _).2 fun q hq => by
    obtain ⟨a, ha, rfl⟩ := List.mem_map.1 hq
    exact hno a ha
  have hrun := (refines_none (n := n) hT offerMatcher quiescent a1 hf H).1 hn hH
  have hc : timedCall T n offerMatcher a1 H = none := by simp [timedCall, hrun, answer]
  exact ⟨hrun, by simp [requestTimed, discoverOfferTimed, hc], by simp [requestTimed, discoverOfferTimed, hc]⟩

/-- **C13 (script level, quiescent).** The script that injects the routed
stream (in time order), every datagram applied at quiescence — on a deadline or
not — allows EXACTLY ONE result: the timed machine's on the stream's observation
sequence, i.e. (by `C13_call_refines_timed`) the abstract call's answer.  The
same holds whatever the sync flags when no datagram arrives exactly on a
retransmission deadline `T·(2^(k+1) − 1)`. -/
theorem C13_call_script {α : Type} (T n : Int) (m : α → Bool) (arr : List (Int × α)) (H : Int) (hT : 0 < T)
    (ho : Ordered arr) :
    runCall T n (scriptOf m arr) H = [runObs T n (obsOf m quiescent arr) H] ∧
    (∀ sy : Nat → Bool, (∀ a ∈ arr, ∀ k : Nat, a.1 ≠ T * (2 ^ (k + 1) - 1)) →
      runCall T n (scriptFrom m sy 0 arr) H = [runObs T n (obsOf m quiescent arr) H]) :=
  ⟨runCall_scriptOf hT m arr H ho, fun sy hnd => runCall_scriptFrom_no_coincidence hT m sy arr H ho hnd⟩

/-- **C13 (script level, racing: what is NOT the abstract call, exactly).** ANY
sync flags (datagrams racing with per-try deadlines, where the script-level
model lets a datagram be lost to the registration being torn down, or be seen by
the old or the new try).  For EVERY result `r` the model allows:
(1) if `r` is a response it is a packet of the stream that the matcher accepts,
returned at its arrival instant, and every accepted packet BEFORE it arrived
exactly on a retransmission deadline — so `r` is `find?` of the stream with
some deadline-coincident packets deleted;
(2) if `r` is not a response, every accepted packet of the stream arrived
exactly on a retransmission deadline, or at/after the budget.
In particular a rejected packet is never returned, nothing is invented, and
without a coincidence the answer is `find?` of the whole stream. -/
theorem C13_call_script_racing {α : Type} (T n : Int) (m : α → Bool) (sy : Nat → Bool) (arr : List (Int × α))
    (H : Int) (hT : 0 < T) (ho : Ordered arr) (r : Result) (hr : r ∈ runCall T n (scriptFrom m sy 0 arr) H) :
    (∀ t i, r.ret = some (t, .resp i) → ∃ p, arr[i]? = some (t, p) ∧ m p = true ∧
      ∀ j q, j < i → arr[j]? = some q → m q.2 = true → ∃ k : Nat, q.1 = T * (2 ^ (k + 1) - 1)) ∧
    ((∀ t i, r.ret ≠ some (t, .resp i)) → ∀ a ∈ arr, m a.2 = true →
      (∃ k : Nat, a.1 = T * (2 ^ (k + 1) - 1)) ∨ (0 ≤ n ∧ callBudget T n ≤ a.1)) :=
  runCall_stream hT m sy arr H ho r hr

/-- The reading "the script-level model returns `find?` of the routed stream"
for EVERY script, racing ones included. -/
def C13_call_script_full : Prop :=
  ∀ (T n : Int) (m : Nat → Bool) (sy : Nat → Bool) (arr : List (Int × Nat)) (H : Int), 0 < T → Ordered arr →
    InBudget T n arr → ∀ r ∈ runCall T n (scriptFrom m sy 0 arr) H, answer arr r.ret = (streamOf arr).find? m

/-- False of the model (which is deliberately a superset of the Go runtime's
behaviour there): an acceptable datagram injected, without waiting for
quiescence, at the very instant of the first deadline may be delivered to the
registration being torn down and lost; the call then returns the NEXT acceptable
packet (here: packet number 1 instead of number 0). -/
theorem C13_call_script_counterexample : ¬ C13_call_script_full := by
  intro h
  have := h 1000 3 (fun p => p == 7 || p == 8) (fun _ => false) [(1000, 7), (1500, 8)] 10000 (by decide)
    ⟨by decide, by decide⟩ (fun _ => by decide) ⟨[0, 1000], some (1500, .resp 1)⟩ (by decide)
  revert this
  decide

/-! Non-vacuity of the refinement: concrete timed runs (kernel-evaluated). -/

/-- packets are numbers, the matcher accepts 7; T = 1000, 3 tries; a rejected 3
at 400, a rejected 5 exactly ON the first deadline and racing with it, the
accepted 7 at 2500, another 7 later: returned at 2500, packet number 2, after two
transmissions; `find?` gives the same packet -/
example : runObs 1000 3 (obsOf (· == 7) (fun i => i != 1) [(400, 3), (1000, 5), (2500, 7), (2600, 7)]) 10000 =
      ⟨[0, 1000], some (2500, .resp 2)⟩ ∧
    answer [(400, 3), (1000, 5), (2500, 7), (2600, 7)] (some (2500, .resp 2)) = some 7 ∧
    (streamOf [((400 : Int), 3), (1000, 5), (2500, 7), (2600, 7)]).find? (· == 7) = some 7 := by decide

/-- nothing accepted: three transmissions, the no-response error at the budget 7000 -/
example : runObs 1000 3 (obsOf (· == 7) quiescent [(400, 3), (1000, 5), (6999, 9)]) 10000 =
      ⟨[0, 1000, 3000], some (callBudget 1000 3, .noResp)⟩ ∧ callBudget 1000 3 = 7000 ∧
    (streamOf [((400 : Int), 3), (1000, 5), (6999, 9)]).find? (· == 7) = none := by decide

/-- the hypotheses of `C13_call_refines_timed` hold of the first stream -/
example : Ordered [((400 : Int), 3), (1000, 5), (2500, 7), (2600, 7)] ∧
    InBudget 1000 3 [((400 : Int), 3), (1000, 5), (2500, 7), (2600, 7)] := by
  refine ⟨⟨by decide, by decide⟩, fun _ => by decide⟩

/-- context cancelled at 2000, between the rejected packets and the acceptable
one: the context's error at 2000; the acceptable packet at 2500 is never seen -/
example : (runObs 1000 3 (obsOf (· == 7) quiescent [(400, 3), (1000, 5)] ++
      ⟨2000, .ctx, 0, true⟩ :: obsFrom (· == 7) quiescent 2 [(2500, 7)]) 10000).ret = some (2000, .ctxErr) := by
  decide

/-- an acceptable packet arriving exactly at the budget, applied at quiescence: not returned -/
example : (runObs 1000 3 (obsOf (· == 7) quiescent [(400, 3), (7000, 7)]) 10000).ret = some (7000, .noResp) := by
  decide

/-- the script-level model on the first stream, all at quiescence: one result -/
example : runCall 1000 3 (scriptOf (· == 7) [(400, 3), (1000, 5), (2500, 7), (2600, 7)]) 10000 =
    [⟨[0, 1000], some (2500, .resp 2)⟩] := by decide

/-- … racing: an acceptable packet exactly on the first deadline may be seen by
the new try (two transmissions), be lost (then the next acceptable packet,
number 1, is returned), or be seen by the old try (one transmission): three results, all covered by
`C13_call_script_racing` -/
example : runCall 1000 3 (scriptFrom (fun p => p == 7 || p == 8) (fun _ => false) 0 [(1000, 7), (1500, 8)]) 10000 =
    [⟨[0, 1000], some (1000, .resp 0)⟩, ⟨[0, 1000], some (1500, .resp 1)⟩, ⟨[0], some (1000, .resp 0)⟩] := by decide

/-- DORA on the timed machine with the hostile stream of the example above:
OFFER at 120 ns after a wrong-type packet, then (second call) a wrong-server
ACK, a duplicate OFFER, and the right ACK at 1300 ns — during the second try -/
example : (requestTimed 1000 3 [0, 0, 0, 0] [0, 0, 0, 0] [2, 0, 0, 0, 0, 1] []
      ([(50, ackFrom [10, 0, 0, 1])] ++ (120, exOffer) :: [(130, exOffer)])
      ([(10, ackFrom [10, 0, 0, 2]), (20, exOffer)] ++ (1300, ackFrom [10, 0, 0, 1]) :: [(1400, nakFrom [10, 0, 0, 1])])
      10000).res = .lease exOffer (ackFrom [10, 0, 0, 1]) :=
  (C13_request_timed 1000 3 _ _ _ _ _ _ _ _ 120 1300 exOffer (ackFrom [10, 0, 0, 1]) 10000 (by decide)
    ⟨by decide, by decide⟩ ⟨by decide, by decide⟩ (Or.inr (by decide)) (Or.inr (by decide))
    (by decide) (by decide) (by decide) (by decide)).2.2.2.1 (by decide)

end Refinement

end Dhcp.Client.Lease

namespace Dhcp.Client.LTS

/-- **C13 (in the interleaving model a returned packet is `find?` of what was
routed).** `C10_first` restated with `List.find?`: in every reachable state of
the labelled transition system (any number of callers, any interleaving with
the receive loop, Close, timers, contexts), a caller that has returned a packet
returned exactly `find?` — with its matcher — of the list of packets the
receive loop routed to the registration of the try that returned; in the form
of the abstract call: on the datagrams, `(routed.map (·.d)).find? accepted`. -/
theorem C13_call_is_find (cfg : Cfg) (hf : cfg.cancelChecksOwner = true) (s : State) (hr : Reachable cfg s)
    (i : Nat) (p : Pkt) (hret : (getC s i).pc = .returned (.ok (some p))) :
    (getR s (getC s i).lastReg).routed.find? (fun q : Pkt => accepted (cfg.caller i) q.d) = some p ∧
    ((getR s (getC s i).lastReg).routed.map (·.d)).find? (accepted (cfg.caller i)) = some p.d := by
  obtain ⟨pre, post, heq, hacc, hpre⟩ := C10_first cfg hf s hr i p hret
  have h1 : (getR s (getC s i).lastReg).routed.find? (fun q : Pkt => accepted (cfg.caller i) q.d) = some p := by
    rw [heq]
    exact List.find?_eq_some_iff_append.2 ⟨by simpa using hacc, pre, post, rfl, fun q hq => by simpa using hpre q hq⟩
  refine ⟨h1, ?_⟩
  rw [List.find?_map]
  show Option.map _ (List.find? (fun q : Pkt => accepted (cfg.caller i) q.d) _) = _
  rw [h1]; rfl

/-- non-vacuity: the reachable state of `ownTrace` (Props/C10.lean: a rejected datagram, a
foreign one, an undecodable one, then the accepted one) -/
example : ∃ s, Reachable cfgTag s ∧ (getC s 0).pc = .returned (.ok (some ⟨3, ⟨3, true, 1⟩⟩)) ∧
    (getR s (getC s 0).lastReg).routed = [⟨0, ⟨3, true, 0⟩⟩, ⟨3, ⟨3, true, 1⟩⟩] :=
  ⟨_, ⟨ownTrace, rfl⟩, by decide, by decide⟩

end Dhcp.Client.LTS
