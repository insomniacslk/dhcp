import DhcpProofs.Props.C05
import DhcpProofs.Lemmas.V6EncGrammar
import DhcpProofs.Lemmas.LabelApi
import DhcpProofs.Lemmas.V6Parse
import DhcpProofs.Lemmas.V6Fresh
/-
  C02 — DHCPv6 encode→decode preserves messages, relay chains and every option
  type.  `encMsg`/`dec6` model `ToBytes`/`dhcpv6.FromBytes`; `WFMsg` is the
  representable domain of the property (Dhcp/V6/Domain.lean); the option table
  is re-checked against the `ParseOption` switch on every run
  (DhcpProofs/Facts/V6Table.lean).
-/
namespace Dhcp.Props
open Dhcp.V6

/-- **C02 (round trip).** For every well-formed message or relay chain — any
nesting depth, any number of options, every option type of the parser table
and unknown codes — decoding the encoder's bytes returns the value itself:
same header, same options in the same order with equal fields, recursively. -/
theorem C02_roundtrip (m : Msg6) (h : WFMsg m) : dec6 (encMsg m) = .ok m :=
  dec6_encMsg m h

/-- **C02 (single options).** The same for `ParseOption` on one option's value. -/
theorem C02_roundtrip_option (o : Opt6) (h : WFOpt o) : parseOption o.code (encOpt o) = .ok o :=
  parseOption_encOpt o h

/-- **C02 (wire layout, framing).** The emitted bytes are derivable in the declarative RFC
8415 framing grammar (`Spec.PMsg`: no Lexer and no fuel in the framing; its leaf values are
delegated to the model's `decSimple` / `decDUID`) with `m` as their reading: header, then
options tiling the remainder exactly, recursively through every container option.  It is the
weaker corollary (`PMsg_of_rfc`) of `C02_wire_rfc` below, which also fixes the leaf value
layouts; those are in addition compared with an independently written Go RFC decoder by
oracle c02. -/
theorem C02_wire (m : Msg6) (h : WFMsg m) : Spec.PMsg (encMsg m) m :=
  PMsg_of_rfc (PMsg'_enc m h)

/-- **C02 (any fuel).** The statement does not depend on the fuel the model's
decoder is run with, once it covers the nesting depth. -/
theorem C02_roundtrip_fuel (m : Msg6) (h : WFMsg m) (f : Nat) (hf : fuelMsg m ≤ f) :
    decMsgF f (encMsg m) = .ok m :=
  ((decF_iff f).2.2 _ _).mpr ⟨PMsg_of_rfc (PMsg'_enc m h), hf⟩

/-- **C02 (freshly built label sets).** A label set built by the caller has no
`original` bytes; `WFOpt` asks for the decoded form. For a fresh set of valid
names the round trip returns the same names, now carrying the bytes they were
parsed from (C19 round trip). The readable special case, for the domain search
list, of `C02_roundtrip_option_fresh` below, which covers every option. -/
theorem C02_domainSearch_fresh (ns : List Bytes) (h : Spec.Name.ValidNames ns) :
    parseOption 24 (encOpt (.domainSearch { original := none, labels := ns })) =
      .ok (.domainSearch { original := some (Label.labelsToBytes ns), labels := ns }) := by
  have h1 : encOpt (.domainSearch { original := none, labels := ns }) = Label.labelsToBytes ns := by
    simp only [encOpt]
    exact Label.toBytes_original_none _ rfl
  rw [h1]
  have h2 := Label.fromBytes_labelsToBytes ns h
  simp [parseOption, fuelFor, parseOpt, decSimple, h2]

/-! `WFMsg` asks every label set (domain search list 24, client FQDN 39, NTP server
FQDN suboption 56/3) to be in DECODED form (`original` = the bytes it was parsed
from).  A caller who builds a message (`WithFQDN`, `WithDomainSearchList`,
`&rfc1035label.Labels{Labels: …}`) has `original = nil`.  `WFMsg'`
(Dhcp/V6/Domain.lean) is `WFMsg` with such fresh sets of valid names allowed
anywhere, at any depth; `normMsg` replaces each fresh set by its decoded form
(`original` = the bytes `labelsToBytes` emits for the names, names unchanged) and
touches nothing else. -/

/-- what the normalisation does to one label set -/
theorem C02_normLabels (orig : Option Bytes) (ns : List Bytes) :
    normLabels ⟨none, ns⟩ = ⟨some (Label.labelsToBytes ns), ns⟩ ∧
    (∀ b, Label.labelsFromBytes b = .ok ns → normLabels ⟨some b, ns⟩ = ⟨some b, ns⟩) ∧
    (∀ b ns0, Label.labelsFromBytes b = .ok ns0 → ns0 ≠ ns →
      normLabels ⟨some b, ns⟩ = ⟨some (Label.labelsToBytes ns), ns⟩) ∧
    (normLabels ⟨orig, ns⟩).labels = ns ∧
    (normLabels ⟨orig, ns⟩).toBytes = (Label.Labels.mk orig ns).toBytes := by
  refine ⟨?_, ?_, ?_, normLabels_labels _, normLabels_toBytes _⟩
  · simp only [normLabels, Label.toBytes_original_none ⟨none, ns⟩ rfl]
  · intro b hb; exact normLabels_of_LabelsOK ⟨b, rfl, hb⟩
  · intro b ns0 hb hne
    simp only [normLabels, Label.toBytes_of_edited hb hne]

/-- **C02 (round trip with fresh label sets).** For every message or relay
chain of the extended domain — any depth, any number of options, label sets
fresh or decoded wherever they occur — decoding the encoder's bytes returns the
message with every fresh label set in its decoded form and everything else
equal: `dec6 (encMsg m) = ok (normMsg m)`. -/
theorem C02_roundtrip_fresh (m : Msg6) (h : WFMsg' m) : dec6 (encMsg m) = .ok (normMsg m) :=
  dec6_encMsg_fresh m h

/-- the same for `ParseOption` on one option's value (subsumes `C02_domainSearch_fresh`) -/
theorem C02_roundtrip_option_fresh (o : Opt6) (h : WFOpt' o) :
    parseOption o.code (encOpt o) = .ok (normOpt o) :=
  parseOption_encOpt_fresh o h

/-- `C02_roundtrip` is the special case without fresh sets: `WFMsg ⊆ WFMsg'`
and `normMsg` is the identity on `WFMsg` -/
theorem C02_fresh_extends (m : Msg6) (h : WFMsg m) : WFMsg' m ∧ normMsg m = m :=
  ⟨WFMsg'_of_WF m h, normMsg_of_WF m h⟩

/-- the normal form is on the wire what the message is (for EVERY message, in
the domain or not); it lies in the round-trip domain, so decoding its encoding
returns it unchanged: a second trip changes nothing more -/
theorem C02_norm_fixpoint (m : Msg6) :
    encMsg (normMsg m) = encMsg m ∧
    (WFMsg' m → WFMsg (normMsg m) ∧ normMsg (normMsg m) = normMsg m ∧
      dec6 (encMsg (normMsg m)) = .ok (normMsg m)) :=
  ⟨encMsg_norm m, fun h =>
    have hw := WFMsg_norm m h
    ⟨hw, normMsg_of_WF _ hw, dec6_encMsg _ hw⟩⟩

/-- the emitted bytes of a message with fresh label sets are derivable in the
framing grammar with the normal form as their reading -/
theorem C02_wire_fresh (m : Msg6) (h : WFMsg' m) : Spec.PMsg (encMsg m) (normMsg m) :=
  encMsg_norm m ▸ PMsg_of_rfc (PMsg'_enc _ (WFMsg_norm m h))

theorem durOK_ofNat (s : Nat) (h : s < 4294967296) : DurOK ((s : Int) * second) := ⟨s, h, rfl⟩
theorem ip16_zeros : IP16 (some (zeros 16)) := ⟨zeros 16, rfl, by simp⟩

set_option maxRecDepth 20000 in
/-- Non-vacuity: a relay chain of depth 2 carrying an interface-id and, innermost,
a SOLICIT with elapsed time, IA_NA{IAAddr{Status}}, IA_PD{IAPrefix /56} and an
unknown option is in the domain (so `C02_roundtrip` applies to it). -/
example : WFMsg
    (.relay 12 1 (some (zeros 16)) (some (zeros 16))
      [.interfaceID [1, 2],
       .relayMsg (.relay 13 0 (some (zeros 16)) (some (zeros 16))
        [.relayMsg (.msg 1 [7, 8, 9]
          [.elapsed ((5 : Nat) * tenMs),
           .iana [0, 0, 0, 1] ((3600 : Nat) * second) ((7200 : Nat) * second)
             [.iaaddr (some (zeros 16)) ((60 : Nat) * second) ((120 : Nat) * second) [.status 0 [111, 107]]],
           .iapd [0, 0, 0, 2] ((0 : Nat) * second) ((0 : Nat) * second)
             [.iaprefix ((60 : Nat) * second) ((120 : Nat) * second) (some (56, some (zeros 16))) []],
           .generic 4242 [1, 2, 3]])])]) := by
  have d (s : Nat) (h : s < 4294967296 := by decide) : DurOK ((s : Int) * second) := durOK_ofNat s h
  refine ⟨by decide, ip16_zeros, ip16_zeros, trivial, by decide, ?_, by decide, trivial⟩
  refine ⟨by decide, ip16_zeros, ip16_zeros, ?_, by decide, trivial⟩
  refine ⟨by decide, by decide, ⟨5, by decide, rfl⟩, by decide, ?_, by decide, ?_, by decide, ?_, by decide, trivial⟩
  · exact ⟨by decide, d 3600, d 7200, ⟨ip16_zeros, d 60, d 120, by simp [WFOpt], by decide, trivial⟩, by decide, trivial⟩
  · exact ⟨by decide, d 0, d 0, ⟨d 60, d 120, ⟨by decide, by decide, ip16_zeros⟩, trivial⟩, by decide, trivial⟩
  · exact ⟨by decide, by decide⟩

/-- a relay-forward carrying a SOLICIT built the way a client builds it: domain
search list "a.b", "c"; client FQDN "h.c"; NTP server FQDN "n.t" — all three
label sets FRESH — next to an IA_NA -/
def exFresh : Msg6 :=
  .relay 12 0 (some (zeros 16)) (some (zeros 16))
    [.relayMsg (.msg 1 [7, 8, 9]
      [.domainSearch ⟨none, [[97, 46, 98], [99]]⟩,
       .fqdn 1 ⟨none, [[104, 46, 99]]⟩,
       .ntp [.srvFQDN ⟨none, [[110, 46, 116]]⟩],
       .iana [0, 0, 0, 1] ((3600 : Nat) * second) ((7200 : Nat) * second) []])]

set_option maxRecDepth 20000 in
/-- Non-vacuity of `C02_roundtrip_fresh`: `exFresh` is in the extended domain
(and NOT in `WFMsg`: its label sets have no `original`) … -/
example : WFMsg' exFresh ∧ ¬ WFMsg exFresh := by
  have hd : WFMsg' exFresh := by
    have d (s : Nat) (h : s < 4294967296 := by decide) : DurOK ((s : Int) * second) := durOK_ofNat s h
    refine ⟨by decide, ip16_zeros, ip16_zeros, ?_, by decide, trivial⟩
    refine ⟨by decide, by decide, ?_, by decide, ?_, by decide, ?_, by decide, ?_, by decide, trivial⟩
    · exact .inr ⟨by decide, .inl rfl⟩
    · exact .inr ⟨by decide, .inl rfl⟩
    · intro s hs
      simp only [List.mem_singleton] at hs
      subst hs
      exact ⟨⟨.inr ⟨by decide, .inl rfl⟩, rfl⟩, by decide⟩
    · exact ⟨by decide, d 3600, d 7200, trivial⟩
  refine ⟨hd, fun h => ?_⟩
  simp only [exFresh, WFMsg, WFOpts, WFOpt] at h
  obtain ⟨b, hb, _⟩ := h.2.2.2.1.2.2.1
  cases hb

/-- … and what comes back is the same message with the three label sets carrying
the bytes they were parsed from -/
example : dec6 (encMsg exFresh) = .ok
    (.relay 12 0 (some (zeros 16)) (some (zeros 16))
      [.relayMsg (.msg 1 [7, 8, 9]
        [.domainSearch ⟨some [1, 97, 1, 98, 0, 1, 99, 0], [[97, 46, 98], [99]]⟩,
         .fqdn 1 ⟨some [1, 104, 1, 99, 0], [[104, 46, 99]]⟩,
         .ntp [.srvFQDN ⟨some [1, 110, 1, 116, 0], [[110, 46, 116]]⟩],
         .iana [0, 0, 0, 1] ((3600 : Nat) * second) ((7200 : Nat) * second) []])]) := by
  have hd : WFMsg' exFresh := by
    have d (s : Nat) (h : s < 4294967296 := by decide) : DurOK ((s : Int) * second) := durOK_ofNat s h
    refine ⟨by decide, ip16_zeros, ip16_zeros, ?_, by decide, trivial⟩
    refine ⟨by decide, by decide, ?_, by decide, ?_, by decide, ?_, by decide, ?_, by decide, trivial⟩
    · exact .inr ⟨by decide, .inl rfl⟩
    · exact .inr ⟨by decide, .inl rfl⟩
    · intro s hs
      simp only [List.mem_singleton] at hs
      subst hs
      exact ⟨⟨.inr ⟨by decide, .inl rfl⟩, rfl⟩, by decide⟩
    · exact ⟨by decide, d 3600, d 7200, trivial⟩
  rw [C02_roundtrip_fresh exFresh hd]
  have e1 : (Label.Labels.mk none [[97, 46, 98], [99]]).toBytes = [1, 97, 1, 98, 0, 1, 99, 0] := by
    rw [Label.toBytes_original_none _ rfl]; decide
  have e2 : (Label.Labels.mk none [[104, 46, 99]]).toBytes = [1, 104, 1, 99, 0] := by
    rw [Label.toBytes_original_none _ rfl]; decide
  have e3 : (Label.Labels.mk none [[110, 46, 116]]).toBytes = [1, 110, 1, 116, 0] := by
    rw [Label.toBytes_original_none _ rfl]; decide
  simp only [exFresh, normMsg, normOpts, normOpt, normNTP, normLabels, List.map, e1, e2, e3]

/-! `WFMsg'` also admits a label set that was decoded from SOME bytes and whose names
were changed afterwards (`d.Labels[i] = …`, names dropped or appended), as long
as the names now in it are valid: `ToBytes` then re-encodes the names (or keeps
the original when the edit was undone), and the trip returns the edited names
with the emitted bytes as their `original`. -/

/-- a domain search list decoded from the wire form of "a.b", then edited to
"c", "a.b" by the caller -/
def exEdited : Msg6 :=
  .msg 1 [7, 8, 9] [.domainSearch ⟨some [1, 97, 1, 98, 0], [[99], [97, 46, 98]]⟩]

/-- Non-vacuity for edited sets: `exEdited` is in the extended domain, not in
`WFMsg`, and the trip returns the edited names carrying their own wire form -/
example : WFMsg' exEdited ∧ ¬ WFMsg exEdited ∧
    dec6 (encMsg exEdited) = .ok
      (.msg 1 [7, 8, 9] [.domainSearch ⟨some [1, 99, 0, 1, 97, 1, 98, 0], [[99], [97, 46, 98]]⟩]) := by
  have hp : Label.labelsFromBytes [1, 97, 1, 98, 0] = .ok [[97, 46, 98]] := by decide
  have hd : WFMsg' exEdited :=
    ⟨by decide, by decide, .inr ⟨by decide, .inr ⟨_, _, rfl, hp⟩⟩, by decide, trivial⟩
  refine ⟨hd, ?_, ?_⟩
  · intro h
    simp only [exEdited, WFMsg, WFOpts, WFOpt] at h
    obtain ⟨b, hb, hb'⟩ := h.2.2.1
    simp only [Option.some.injEq] at hb
    subst hb
    rw [hp] at hb'
    exact absurd hb' (by decide)
  · rw [C02_roundtrip_fresh exEdited hd]
    have e : (Label.Labels.mk (some [1, 97, 1, 98, 0]) [[99], [97, 46, 98]]).toBytes =
        [1, 99, 0, 1, 97, 1, 98, 0] := by
      rw [Label.toBytes_of_edited hp (by decide)]; decide
    simp only [exEdited, normMsg, normOpts, normOpt, normLabels, e]

/-! `Spec.PMsg'` (Dhcp/Spec/Wire6Rfc.lean, Leaf6.lean) describes RFC 8415 messages,
relay headers, option framing AND the value layout of every option without any
decoder code.  The encoder's output is derivable in it, with the message itself
(its normal form, when it carries fresh or edited label sets) as the reading —
"the emitted bytes are the RFC wire layout" as a theorem about the model. -/

theorem C02_wire_rfc (m : Msg6) (h : WFMsg m) : Spec.PMsg' (encMsg m) m :=
  PMsg'_enc m h

theorem C02_wire_rfc_fresh (m : Msg6) (h : WFMsg' m) : Spec.PMsg' (encMsg m) (normMsg m) :=
  encMsg_norm m ▸ PMsg'_enc _ (WFMsg_norm m h)

/-- … and nothing else is: whatever the grammar reads out of the emitted bytes
is that message (the grammar is functional, `C05_functional_rfc`) -/
theorem C02_wire_rfc_unique (m m' : Msg6) (h : WFMsg' m) (h' : Spec.PMsg' (encMsg m) m') :
    m' = normMsg m :=
  C05_functional_rfc _ _ _ h' (C02_wire_rfc_fresh m h)

end Dhcp.Props
