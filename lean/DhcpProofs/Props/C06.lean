import DhcpProofs.Lemmas.V4Fix
import DhcpProofs.Lemmas.V6FixEx
/-
  C06 — decode → encode → decode is a fixpoint.  DHCPv4 first (`C06_v4_*`; lemmas in
  DhcpProofs/Lemmas/V4Fix.lean), DHCPv6 below (`C06_v6_*`; lemmas in
  DhcpProofs/Lemmas/V6{LeafInv,Fix,FixEx}.lean).
-/
namespace Dhcp.Props
open Dhcp.V4 Dhcp.Spec

/-- **C06 (DHCPv4).** For every byte string the decoder accepts, encoding the
decoded packet gives bytes that decode to an equal packet (up to the one value
normalisation the property lists: a name filling its whole field without NUL is
cut to capacity − 1), and encoding that packet again reproduces the same bytes. -/
theorem C06_v4_fixpoint (b : Bytes) (p : Pkt4) (h : dec4 b = .ok p) :
    ∃ b₁, enc4 p = .ok b₁ ∧ dec4 b₁ = .ok (cutNames p) ∧ enc4 (cutNames p) = .ok b₁ :=
  dec4_fixpoint b p h

/-- The normalisation is the identity unless a name fills its field completely:
whenever the decoded server name has at most 63 and the boot file at most 127 bytes
(so whenever both name fields contain a NUL on the wire, as from any RFC-conformant
sender) the decoded packet is reproduced exactly. -/
theorem C06_v4_exact (b : Bytes) (p : Pkt4) (h : dec4 b = .ok p)
    (h1 : p.sname.length ≤ 63) (h2 : p.file.length ≤ 127) :
    ∃ b₁, enc4 p = .ok b₁ ∧ dec4 b₁ = .ok p := by
  obtain ⟨b₁, e1, e2, _⟩ := dec4_fixpoint b p h
  rw [cutNames_id_of_short p h1 h2] at e2
  exact ⟨b₁, e1, e2⟩

/-- **C06 (meaning unchanged).** The re-encoded bytes are a well-formed packet
whose RFC reading is the decoded packet: the differences between `b` and `b₁`
(option order, padding, instance splitting, name capacity) have no semantic
content under `Spec.Parses4`. -/
theorem C06_v4_meaning (b : Bytes) (p : Pkt4) (h : dec4 b = .ok p) :
    Parses4 b p ∧ ∃ b₁, enc4 p = .ok b₁ ∧ Parses4 b₁ (cutNames p) := by
  obtain ⟨b₁, e1, e2, _⟩ := dec4_fixpoint b p h
  exact ⟨dec4_sound b p h, b₁, e1, dec4_sound b₁ _ e2⟩

/-- re-encoding never panics on a decoded packet -/
theorem C06_v4_reencode_total (b : Bytes) (p : Pkt4) (h : dec4 b = .ok p) : ∃ b₁, enc4 p = .ok b₁ := by
  obtain ⟨b₁, e1, _, _⟩ := dec4_fixpoint b p h
  exact ⟨b₁, e1⟩

/-- Non-vacuity: there are accepted inputs (every encoder output is one). -/
example (p : Pkt4) (h : Encodable p) : ∃ b q, dec4 b = .ok q := by
  obtain ⟨b, _, h2⟩ := enc4_dec4 p h
  exact ⟨b, _, h2⟩

/-! `dec6`/`encMsg` model `dhcpv6.FromBytes`/`ToBytes` (Dhcp/V6/Codec.lean);
`Spec.PMsg` is the declarative RFC 8415 framing grammar (Dhcp/Spec/Wire6.lean,
`dec6 b = .ok m ↔ PMsg b m` is C05).  Decoding followed by encoding normalises
some values without semantic content — duplicate ORO codes dropped, reserved 4rd
flag bits dropped, the 4rd traffic-class octet written as 0 when its flag is clear,
the address of a zero-length IA prefix dropped, embedded DHCPv4 messages
(option 87) re-padded to 300 bytes with option order / padding / instance
splitting normalised — so the re-encoded bytes may differ from the input; the
theorems say that they decode to the SAME message.

Two things decoding does NOT guarantee remain as hypotheses, both concerning
embedded DHCPv4 messages only (Lemmas/V6Fix.lean):
* `V6.FitsLenM m`: every option of `m` that CONTAINS an option 87 (at any
  depth) still fits its 16-bit length field when re-encoded (the inner message
  may grow to 300 bytes).  Options without an embedded DHCPv4 message are proved
  never to grow, so nothing is assumed about them.
* `V6.NamesOKM m`: no embedded DHCPv4 message has a name filling its whole
  field (sname ≤ 63, file ≤ 127 bytes); otherwise the name is cut (the DHCPv4
  normalisation `cutNames`), which `C06_v6_normalised` accounts for instead.
`V6.FitsM m = FitsLenM m ∧ NamesOKM m`.  Both are necessary:
`C06_v6_counterexample`, `C06_v6_length_needed`. -/

open Dhcp.V6 in
/-- **C06 (DHCPv6), unconditional statement** — stated so that its negation can be; FALSE of
the model (and of the code), see `C06_v6_counterexample`. -/
def C06_v6_full : Prop := ∀ b m, dec6 b = .ok m → dec6 (encMsg m) = .ok m

open Dhcp.V6 in
/-- **C06 (DHCPv6, fixpoint).** For every byte string the decoder accepts —
any nesting depth, every option type, unknown codes — encoding the decoded
message gives bytes that decode to an equal message (hence encoding that
message again reproduces the same bytes), PROVIDED `FitsM m`: re-encoded
options containing an embedded DHCPv4 message still fit their 16-bit length,
and no embedded DHCPv4 message has an sname of 64 / file of 128 NUL-free bytes. -/
theorem C06_v6_fixpoint (b : Bytes) (m : Msg6) (h : dec6 b = .ok m) (hf : FitsM m) :
    dec6 (encMsg m) = .ok m := v6_fixpoint b m h hf

open Dhcp.V6 in
/-- … and the second encoding reproduces the bytes of the first. -/
theorem C06_v6_fixpoint_bytes (b : Bytes) (m m' : Msg6) (h : dec6 b = .ok m) (hf : FitsM m)
    (h' : dec6 (encMsg m) = .ok m') : encMsg m' = encMsg m := by
  rw [v6_fixpoint b m h hf] at h'
  injection h' with h'
  rw [h']

open Dhcp.V6 in
/-- **C06 (DHCPv6, meaning unchanged).** Under the same hypothesis the original
and the re-encoded bytes have the SAME reading under the declarative framing
grammar: whatever differs between them (ORO duplicates, reserved bits, a
zero-length prefix's address, DHCPv4 padding) has no semantic content. -/
theorem C06_v6_meaning (b : Bytes) (m : Msg6) (h : dec6 b = .ok m) (hf : FitsM m) :
    PMsg b m ∧ PMsg (encMsg m) m :=
  ⟨(dec6_iff b m).mp h, (dec6_iff _ m).mp (v6_fixpoint b m h hf)⟩

open Dhcp.V6 in
/-- **C06 (DHCPv6, full strength with the listed normalisation).** Without any
hypothesis on names: the re-encoded bytes decode to the message with the names
of its embedded DHCPv4 messages cut to their NUL-terminated capacity
(`cutNames6` = `V4.cutNames` on every option 87, identity elsewhere), and
encoding that message reproduces the same bytes. Only the length condition
remains. -/
theorem C06_v6_normalised (b : Bytes) (m : Msg6) (h : dec6 b = .ok m) (hf : FitsLenM m) :
    dec6 (encMsg m) = .ok (cutNames6 m) ∧ encMsg (cutNames6 m) = encMsg m :=
  v6_fixpoint_norm b m h hf

open Dhcp.V6 in
theorem C06_v6_normalised_meaning (b : Bytes) (m : Msg6) (h : dec6 b = .ok m) (hf : FitsLenM m) :
    PMsg b m ∧ PMsg (encMsg m) (cutNames6 m) :=
  ⟨(dec6_iff b m).mp h, (dec6_iff _ _).mp (v6_fixpoint_norm b m h hf).1⟩

open Dhcp.V6 in
/-- the normalisation is the identity when no embedded name fills its field -/
theorem C06_v6_cut_id (m : Msg6) (h : NamesOKM m) : cutNames6 m = m := cutNames6_id m h

open Dhcp.V6 in
/-- **C06 (DHCPv6, unconditional part).** For messages without option 87
anywhere (`hasV4M m = false`: every message that does not tunnel DHCPv4) the
fixpoint holds with NO side condition, and re-encoding never lengthens the
message. -/
theorem C06_v6_no_dhcpv4 (b : Bytes) (m : Msg6) (h : dec6 b = .ok m) (hv : hasV4M m = false) :
    dec6 (encMsg m) = .ok m ∧ (encMsg m).length ≤ b.length :=
  have hf := noV4_fitsM m hv
  ⟨v6_fixpoint b m h hf, (decoded_msg ((dec6_iff b m).mp h) hf.1).2 hv⟩

open Dhcp.V6 in
/-- Under `Fits` / `FitsL` / `FitsM`, every decoded option / option list / message lies in the
round-trip domain of C02 (`WFOpt`/`WFOpts`/`WFMsg`): corollary of `decoded_opt` / `decoded_opts` /
`decoded_msg` (Lemmas/V6Fix.lean), which the fixpoint theorems use directly. -/
theorem C06_v6_decoded_wf {c : Nat} {v d b : Bytes} {o : Opt6} {os : List Opt6} {m : Msg6} :
    (POpt c v o → c < 65536 → Fits o → WFOpt o) ∧ (POpts d os → FitsL os → WFOpts os) ∧
    (PMsg b m → FitsM m → WFMsg m) :=
  ⟨fun h hc hf => cutOpt_id o hf.2 ▸ (decoded_opt h hc hf.1).1,
   fun h hf => cutOpts_id os hf.2 ▸ (decoded_opts h hf.1).1,
   fun h hf => cutNames6_id m hf.2 ▸ (decoded_msg h hf.1).1⟩

open Dhcp.V6 in
/-- **The unconditional statement is false.** Witness `b6w snFull`: message type
1 with one option 87 carrying a 241-byte DHCPv4 BOOTREQUEST whose 64-byte sname
field is 64 × 'a' (no NUL). It is accepted; its re-encoding decodes to the
message with the 63-byte name. -/
theorem C06_v6_counterexample : ¬ C06_v6_full := v6_full_false

open Dhcp.V6 in
/-- **The length hypothesis is needed too.** Witness `b6big`: an IA_TA holding
a 241-byte DHCPv4 message (short names) and 65250 bytes of an unknown option —
value length 65503. Re-encoding pads the DHCPv4 message to 300 bytes, the IA_TA
value becomes 65562 bytes behind a 16-bit length field, and the result is not
read back as the message. -/
theorem C06_v6_length_needed :
    ¬ ∀ b m, dec6 b = .ok m → NamesOKM m → dec6 (encMsg m) = .ok m := v6_names_only_false

open Dhcp.V6 in
/-- Non-vacuity: an accepted message WITH an embedded DHCPv4 message satisfies
the hypothesis of `C06_v6_fixpoint` … -/
example : dec6 (b6w snShort) = .ok (m6w snShort) ∧ FitsM (m6w snShort) ∧ hasV4M (m6w snShort) = true :=
  ⟨dec6_b6w snShort rfl, ⟨fitsLen_m6w snShort, namesOK_m6w_short⟩, rfl⟩

open Dhcp.V6 in
/-- … the counterexample input satisfies the hypothesis of `C06_v6_normalised`
but not `NamesOKM` … -/
example : dec6 (b6w snFull) = .ok (m6w snFull) ∧ FitsLenM (m6w snFull) ∧ ¬ NamesOKM (m6w snFull) :=
  ⟨dec6_b6w snFull rfl, fitsLen_m6w snFull, not_namesOK_m6w_full⟩

open Dhcp.V6 in
/-- … and every encoder output of a well-formed message (any depth, every
option type) is an accepted input, so the theorems are not about an empty set. -/
example (m : Msg6) (h : WFMsg m) : ∃ b, dec6 b = .ok m := ⟨encMsg m, dec6_encMsg m h⟩

end Dhcp.Props
