import Dhcp.V4.Build
import Dhcp.V4.Domain
import Dhcp.Spec.V4Client
import DhcpProofs.Lemmas.V4BuildProps
/-
  C15 — DHCPv4 reply and request builders correlate with the packet they
  answer.

  Every theorem is for EVERY input packet (any opcode, flags, addresses, any
  option set), EVERY transaction id drawn by `New`, and EVERY list of user
  modifiers of any length.  A clause about a field is stated under the
  hypothesis `NoWrite user f` — no user modifier writes that field
  (`Modifier.writes`, a syntactic table proved sound in `apply_frame`) — and
  `C15_modifiers_last` / `C15_last_writer` say what happens otherwise: the
  user's modifier runs after the defaults and prevails.  `user = []`
  satisfies every `NoWrite` hypothesis.
-/
namespace Dhcp.V4
open Dhcp.Spec.V4Client

/-- **C15 (reply: opposite opcode).** A reply built from a request has the
other opcode: BOOTREPLY for a BOOTREQUEST, BOOTREQUEST for anything else
(a BOOTREPLY in particular), never the request's own. -/
theorem C15_reply_opcode (xid : Bytes) (req : Pkt4) (user : List Modifier) (h : NoWrite user .op) :
    (newReplyFromRequest xid req user).op ≠ req.op ∧
    (req.op = opBootRequest → (newReplyFromRequest xid req user).op = opBootReply) ∧
    (req.op ≠ opBootRequest → (newReplyFromRequest xid req user).op = opBootRequest) :=
  reply_opcode xid req user h

/-- **C15 (reply: same transaction id, hardware type and address, flags,
relay address).** -/
theorem C15_reply_fields (xid : Bytes) (req : Pkt4) (user : List Modifier) :
    (NoWrite user .xid → (newReplyFromRequest xid req user).xid = req.xid) ∧
    (NoWrite user .htype → (newReplyFromRequest xid req user).htype = req.htype) ∧
    (NoWrite user .hw → (newReplyFromRequest xid req user).hw = req.hw) ∧
    (NoWrite user .flags → (newReplyFromRequest xid req user).flags = req.flags) ∧
    (NoWrite user .giaddr → (newReplyFromRequest xid req user).giaddr = req.giaddr) := by
  unfold newReplyFromRequest
  refine ⟨fun h => ?_, fun h => ?_, fun h => ?_, fun h => ?_, fun h => ?_⟩
  · rw [build_xid _ _ _ h, replyFromRequest_nil]
  · rw [build_htype _ _ _ h, replyFromRequest_nil]
  · rw [build_hw _ _ _ h, replyFromRequest_nil]
  · rw [build_flags _ _ _ h, replyFromRequest_nil]
  · rw [build_giaddr _ _ _ h, replyFromRequest_nil]

/-- **C15 (reply: echo of relay-agent-information 82 and client-identifier
61).** The option is present in the reply exactly when the request carries it
with a non-empty value, and then it is the request's value byte for byte. -/
theorem C15_reply_echo (xid : Bytes) (req : Pkt4) (user : List Modifier) (c : UInt8)
    (hc : c = optAgentInfo ∨ c = optClientID) (h : NoWrite user (.opt c)) :
    ((newReplyFromRequest xid req user).opts.get c ≠ none ↔ ∃ v, req.opts.get c = some v ∧ v ≠ []) ∧
    (∀ v, req.opts.get c = some v → v ≠ [] → (newReplyFromRequest xid req user).opts.get c = some v) :=
  reply_echo xid req user c hc h

/-- **C15 (reply: nothing else is copied).** Without user modifiers a reply
carries no option other than the two echoed ones. -/
theorem C15_reply_no_other_option (xid : Bytes) (req : Pkt4) (k : UInt8)
    (h1 : k ≠ optAgentInfo) (h2 : k ≠ optClientID) :
    (newReplyFromRequest xid req []).opts.get k = none := by
  unfold newReplyFromRequest
  rw [replyFromRequest_nil]
  simp [h1, h2]

/-- **C15 (request from offer).** The request carries the offer's transaction
id, hardware address, flags and client address (the hardware type is not among
the clauses), BOOTREQUEST when the offer is a BOOTREPLY, message
type REQUEST, the standard parameter request list, option 54 = the offer's
option 54 verbatim when that is non-empty (absent otherwise) and option 50 =
`[]byte(offer.YourIPAddr.To4())`. -/
theorem C15_request_from_offer (xid : Bytes) (offer : Pkt4) (user : List Modifier) :
    (NoWrite user .xid → (newRequestFromOffer xid offer user).xid = offer.xid) ∧
    (NoWrite user (.opt optMessageType) →
      (newRequestFromOffer xid offer user).opts.get optMessageType = some [mtRequest]) ∧
    (NoWrite user (.opt optRequestedIP) →
      (newRequestFromOffer xid offer user).opts.get optRequestedIP = some (ipTo4Bytes offer.yiaddr)) ∧
    (NoWrite user (.opt optServerID) →
      (∀ v, offer.opts.get optServerID = some v → v ≠ [] →
        (newRequestFromOffer xid offer user).opts.get optServerID = some v) ∧
      ((newRequestFromOffer xid offer user).opts.get optServerID ≠ none ↔
        ∃ v, offer.opts.get optServerID = some v ∧ v ≠ [])) ∧
    (NoWrite user (.opt optParamList) →
      (newRequestFromOffer xid offer user).opts.get optParamList = some [1, 3, 15, 6]) ∧
    (NoWrite user .ciaddr → (newRequestFromOffer xid offer user).ciaddr = offer.ciaddr) ∧
    (NoWrite user .hw → (newRequestFromOffer xid offer user).hw = offer.hw) ∧
    (NoWrite user .flags → (newRequestFromOffer xid offer user).flags = offer.flags) ∧
    (NoWrite user .op → (offer.op = opBootReply → (newRequestFromOffer xid offer user).op = opBootRequest)) :=
  request_from_offer xid offer user

/-- The clause "asks for exactly the offered address" read as: option 50 is
the four bytes the encoder writes for the offer's `yiaddr` (`ip4`, nil being
0.0.0.0), for EVERY offer.  False of the model and of the code: see the
counterexample. -/
def C15_request_from_offer_full : Prop :=
  ∀ (xid : Bytes) (offer : Pkt4),
    (newRequestFromOffer xid offer []).opts.get optRequestedIP = some (ip4 offer.yiaddr)

/-- **C15 (request from offer, option 50), proved part.** Whenever the offer's
`YourIPAddr` is not the nil slice — every decoded offer — option 50 is what the
encoder writes for that address (`ip4`: its four bytes whenever `To4()` is not nil,
as for every decoded offer); for a 4-byte address, the address itself. -/
theorem C15_request_from_offer_partial (xid : Bytes) (offer : Pkt4) (user : List Modifier)
    (h : NoWrite user (.opt optRequestedIP)) :
    (offer.yiaddr ≠ none →
      (newRequestFromOffer xid offer user).opts.get optRequestedIP = some (ip4 offer.yiaddr)) ∧
    (∀ b, offer.yiaddr = some b → b.length = 4 →
      (newRequestFromOffer xid offer user).opts.get optRequestedIP = some b) := by
  rw [(request_from_offer xid offer user).2.2.1 h]
  refine ⟨fun hn => ?_, fun b hb hl => ?_⟩
  · cases hy : offer.yiaddr with
    | none => exact absurd hy hn
    | some b => rfl
  · simp [hb, ipTo4Bytes, to4, hl]

/-- A hand-built offer whose `YourIPAddr` is the nil slice (0.0.0.0 on the
wire) yields a zero-length option 50, not 00 00 00 00. -/
theorem C15_request_from_offer_counterexample : ¬ C15_request_from_offer_full := fun h =>
  absurd (h [] { basePkt [] with yiaddr := none }) (by decide)

/-- **C15 (renew).** Client address = the acknowledged address, broadcast bit
clear (the other flag bits are the ACK's), message type REQUEST, no requested
address and no server identifier, standard parameter request list, the ACK's
transaction id and hardware address. -/
theorem C15_renew (xid : Bytes) (ack : Pkt4) (user : List Modifier) :
    (NoWrite user .ciaddr → (newRenewFromAck xid ack user).ciaddr = ack.yiaddr) ∧
    (NoWrite user .flags → isBroadcast (newRenewFromAck xid ack user) = false ∧
      (newRenewFromAck xid ack user).flags = ack.flags % 32768) ∧
    (NoWrite user (.opt optMessageType) →
      (newRenewFromAck xid ack user).opts.get optMessageType = some [mtRequest]) ∧
    (NoWrite user (.opt optRequestedIP) → (newRenewFromAck xid ack user).opts.get optRequestedIP = none) ∧
    (NoWrite user (.opt optServerID) → (newRenewFromAck xid ack user).opts.get optServerID = none) ∧
    (NoWrite user (.opt optParamList) →
      (newRenewFromAck xid ack user).opts.get optParamList = some [1, 3, 15, 6]) ∧
    (NoWrite user .xid → (newRenewFromAck xid ack user).xid = ack.xid) ∧
    (NoWrite user .hw → (newRenewFromAck xid ack user).hw = ack.hw) := by
  unfold newRenewFromAck
  refine ⟨fun h => ?_, fun h => ?_, fun h => ?_, fun h => ?_, fun h => ?_, fun h => ?_, fun h => ?_, fun h => ?_⟩
  · rw [build_ciaddr _ _ _ h, renewFromAck_nil]
  · have e : (build (.renewFromAck ack) xid user).flags = (setUnicast ack).flags := by
      rw [build_flags _ _ _ h, renewFromAck_nil]; rfl
    refine ⟨?_, by rw [e, setUnicast_flags]⟩
    have := isBroadcast_setUnicast ack
    simp only [isBroadcast] at this ⊢
    rw [e]; exact this
  · rw [build_opt _ _ _ _ h, renewFromAck_nil]; rfl
  · rw [build_opt _ _ _ _ h, renewFromAck_nil]; rfl
  · rw [build_opt _ _ _ _ h, renewFromAck_nil]; rfl
  · rw [build_opt _ _ _ _ h, renewFromAck_nil]; rfl
  · rw [build_xid _ _ _ h, renewFromAck_nil]
  · rw [build_hw _ _ _ h, renewFromAck_nil]

/-- **C15 (release).** Message type RELEASE, client address = the acknowledged
address, the ACK's hardware address, unicast (no flag set), BOOTREQUEST, and
the ACK's server identifier copied when non-empty (absent otherwise). -/
theorem C15_release (xid : Bytes) (ack : Pkt4) (user : List Modifier) :
    (NoWrite user (.opt optMessageType) →
      (newReleaseFromAck xid ack user).opts.get optMessageType = some [mtRelease]) ∧
    (NoWrite user .ciaddr → (newReleaseFromAck xid ack user).ciaddr = ack.yiaddr) ∧
    (NoWrite user .hw → (newReleaseFromAck xid ack user).hw = ack.hw) ∧
    (NoWrite user .flags → isBroadcast (newReleaseFromAck xid ack user) = false ∧
      (newReleaseFromAck xid ack user).flags = 0) ∧
    (NoWrite user .op → (newReleaseFromAck xid ack user).op = opBootRequest) ∧
    (NoWrite user (.opt optServerID) →
      (∀ v, ack.opts.get optServerID = some v → v ≠ [] →
        (newReleaseFromAck xid ack user).opts.get optServerID = some v) ∧
      ((newReleaseFromAck xid ack user).opts.get optServerID ≠ none ↔
        ∃ v, ack.opts.get optServerID = some v ∧ v ≠ [])) :=
  release xid ack user

/-- **C15 (inform).** Message type INFORM, the given hardware address, client
address = the given local address, BOOTREQUEST, no flag set. -/
theorem C15_inform (xid hw : Bytes) (localIP : IP) (user : List Modifier) :
    (NoWrite user (.opt optMessageType) →
      (newInform xid hw localIP user).opts.get optMessageType = some [mtInform]) ∧
    (NoWrite user .hw → (newInform xid hw localIP user).hw = hw) ∧
    (NoWrite user .ciaddr → (newInform xid hw localIP user).ciaddr = localIP) ∧
    (NoWrite user .op → (newInform xid hw localIP user).op = opBootRequest) ∧
    (NoWrite user .flags → (newInform xid hw localIP user).flags = 0) ∧
    (NoWrite user .xid → (newInform xid hw localIP user).xid = xid) :=
  inform xid hw localIP user

/-- **C15 (discover).** Message type DISCOVER, the given hardware address,
parameter request list 1, 3, 15, 6 in that order, BOOTREQUEST, client address
0.0.0.0, the drawn transaction id. -/
theorem C15_discover (xid hw : Bytes) (user : List Modifier) :
    (NoWrite user (.opt optMessageType) →
      (newDiscovery xid hw user).opts.get optMessageType = some [mtDiscover]) ∧
    (NoWrite user .hw → (newDiscovery xid hw user).hw = hw) ∧
    (NoWrite user (.opt optParamList) →
      (newDiscovery xid hw user).opts.get optParamList = some [1, 3, 15, 6]) ∧
    (NoWrite user .op → (newDiscovery xid hw user).op = opBootRequest) ∧
    (NoWrite user .ciaddr → (newDiscovery xid hw user).ciaddr = some ipv4zero) ∧
    (NoWrite user .xid → (newDiscovery xid hw user).xid = xid) :=
  discover xid hw user

/-- **C15 (user modifiers run after the defaults).** For every builder, the
packet built with user modifiers is the packet built without them, with the
user modifiers then applied in order. -/
theorem C15_modifiers_last (b : Builder) (xid : Bytes) (user : List Modifier) :
    build b xid user = user.foldl (fun p m => apply m p) (build b xid []) :=
  build_eq b xid user

/-- the same for each exported builder by name -/
theorem C15_modifiers_last_each (xid hw : Bytes) (ip : IP) (p : Pkt4) (user : List Modifier) :
    newDiscovery xid hw user = user.foldl (fun p m => apply m p) (newDiscovery xid hw []) ∧
    newInform xid hw ip user = user.foldl (fun p m => apply m p) (newInform xid hw ip []) ∧
    newRequestFromOffer xid p user = user.foldl (fun p m => apply m p) (newRequestFromOffer xid p []) ∧
    newRenewFromAck xid p user = user.foldl (fun p m => apply m p) (newRenewFromAck xid p []) ∧
    newReplyFromRequest xid p user = user.foldl (fun p m => apply m p) (newReplyFromRequest xid p []) ∧
    newReleaseFromAck xid p user = user.foldl (fun p m => apply m p) (newReleaseFromAck xid p []) ∧
    newDHCPv4 xid user = user.foldl (fun p m => apply m p) (newDHCPv4 xid []) :=
  ⟨build_eq _ _ _, build_eq _ _ _, build_eq _ _ _, build_eq _ _ _, build_eq _ _ _, build_eq _ _ _, rfl⟩

/-- **C15 (the last writer of a field prevails).** If a user modifier `m` is
followed only by modifiers that do not write field `f`, the packet's `f` is
what `m` made of it — whatever the builder's defaults and the earlier user
modifiers did. -/
theorem C15_last_writer (b : Builder) (xid : Bytes) (pre post : List Modifier) (m : Modifier) (f : Field)
    (h : NoWrite post f) :
    (build b xid (pre ++ m :: post)).field f = (apply m (build b xid pre)).field f := by
  rw [List.append_cons, build_eq b xid, applyAll_append, applyAll_frame post f h, ← build_eq, build_snoc]

/-- **C15 (a user modifier colliding with a default prevails).** Instances:
a user message type, client address, transaction id, hardware address,
gateway address, broadcast flag, option removal or generic option given last
is what the packet carries, for every builder and every earlier modifiers. -/
theorem C15_user_prevails (b : Builder) (xid : Bytes) (user : List Modifier) :
    (∀ t, (build b xid (user ++ [.withMessageType t])).opts.get optMessageType = some [t]) ∧
    (∀ ip, (build b xid (user ++ [.withClientIP ip])).ciaddr = ip) ∧
    (∀ x, (build b xid (user ++ [.withTransactionID x])).xid = x) ∧
    (∀ hw, (build b xid (user ++ [.withHwAddr hw])).hw = hw) ∧
    (∀ ip, (build b xid (user ++ [.withGatewayIP ip])).giaddr = ip) ∧
    (isBroadcast (build b xid (user ++ [.withBroadcast true])) = true) ∧
    (isBroadcast (build b xid (user ++ [.withBroadcast false])) = false) ∧
    (∀ c, (build b xid (user ++ [.withoutOption c])).opts.get c = none) ∧
    (∀ c v, (build b xid (user ++ [.withGeneric c v])).opts.get c = some v) ∧
    (∀ cs, (build b xid (user ++ [.withRequestedOptions cs])).opts.get optParamList =
        some ((addCodes (paramRequestList (build b xid user)) cs).map (·.code))) := by
  simp only [build_snoc]
  exact ⟨fun t => by simp [apply], fun _ => rfl, fun _ => rfl, fun _ => rfl, fun _ => rfl,
    isBroadcast_setBroadcast _, isBroadcast_setUnicast _, fun c => by simp [apply], fun c v => by simp [apply],
    fun cs => by simp [apply, requestOptions]⟩

/-- **C15 (the last `WithRequestedOptions` prevails, membership form).** Whatever the
builder and the earlier modifiers did, after a final `WithRequestedOptions(cs...)` the
packet carries a parameter request list, every code of `cs` is in it, and so is every
code that was requested before. -/
theorem C15_requested_options_prevail (b : Builder) (xid : Bytes) (user : List Modifier)
    (cs : List OptCode) :
    ∃ l, (build b xid (user ++ [.withRequestedOptions cs])).opts.get optParamList = some l ∧
      (∀ c ∈ cs, c.code ∈ l) ∧
      (∀ d ∈ paramRequestList (build b xid user), d.code ∈ l) := by
  exact ⟨_, (C15_user_prevails b xid user).2.2.2.2.2.2.2.2.2 cs,
    fun c hc => List.mem_map.mpr ⟨c, mem_addCodes.mpr (.inr hc), rfl⟩,
    fun d hd => List.mem_map.mpr ⟨d, mem_addCodes.mpr (.inl hd), rfl⟩⟩

example : ∃ l, (build (.discovery [2,0,0,0,0,1]) [1,2,3,4] [.withRequestedOptions [⟨false, 33⟩]]).opts.get optParamList = some l ∧ (33 : UInt8) ∈ l ∧ (1 : UInt8) ∈ l := by
  decide

/-! ### The builders against RFC 2131 Table 5 (Dhcp/Spec/V4Client.lean)

`NoWriteTable5 user`: no user modifier writes opcode, client address, flags or
options 53, 50, 54 (any other modifier — lease time, routers, user class, … —
is allowed, in any number). -/

/-- **C15 (RFC 2131: DISCOVER).** BOOTREQUEST, ciaddr 0, message type 1, no
server identifier. -/
theorem C15_rfc_discover (xid hw : Bytes) (user : List Modifier) (h : NoWriteTable5 user) :
    Conforms .discover (newDiscovery xid hw user) none [] := by
  obtain ⟨h1, h2, _, h4, _, h6⟩ := h
  have d := discover xid hw user
  refine ⟨d.2.2.2.1 h1, d.1 h4, ?_, trivial, ?_, trivial⟩
  · show IsZeroAddr _
    rw [d.2.2.2.2.1 h2]; exact .inr (.inr rfl)
  · show (build (.discovery hw) xid user).opts.get optServerID = _
    rw [build_opt _ _ _ _ h6, discovery_nil]; rfl

/-- **C15 (RFC 2131: INFORM).** BOOTREQUEST, ciaddr = the client's address,
message type 8, neither requested address nor server identifier. -/
theorem C15_rfc_inform (xid hw : Bytes) (ip : IP) (user : List Modifier) (h : NoWriteTable5 user) :
    Conforms .inform (newInform xid hw ip user) ip [] := by
  obtain ⟨h1, h2, _, h4, h5, h6⟩ := h
  have d := inform xid hw ip user
  refine ⟨d.2.2.2.1 h1, d.1 h4, d.2.2.1 h2, ?_, ?_, trivial⟩
  · show (build (.inform hw ip) xid user).opts.get optRequestedIP = _
    rw [build_opt _ _ _ _ h5, inform_nil]; rfl
  · show (build (.inform hw ip) xid user).opts.get optServerID = _
    rw [build_opt _ _ _ _ h6, inform_nil]; rfl

/-- **C15 (RFC 2131: REQUEST while renewing).** From any ACK that is not itself
a BOOTREQUEST: BOOTREQUEST, ciaddr = the leased address, message type 3,
neither requested address nor server identifier, broadcast bit clear. -/
theorem C15_rfc_renew (xid : Bytes) (ack : Pkt4) (user : List Modifier) (h : NoWriteTable5 user)
    (hop : ack.op ≠ opBootRequest) :
    Conforms .requestRenewing (newRenewFromAck xid ack user) ack.yiaddr [] := by
  obtain ⟨h1, h2, h3, h4, h5, h6⟩ := h
  have r := C15_renew xid ack user
  refine ⟨?_, r.2.2.1 h4, r.1 h2, r.2.2.2.1 h5, r.2.2.2.2.1 h6, ?_⟩
  · unfold newRenewFromAck
    rw [build_op _ _ _ h1, renewFromAck_nil]
    show replyOp ack.op = 1
    simp [replyOp, hop]; rfl
  · show _ / 32768 % 2 = 0
    rw [(r.2.1 h3).2, Nat.div_eq_of_lt (Nat.mod_lt _ (by decide))]

/-- **C15 (RFC 2131: RELEASE).** From any ACK naming its server: BOOTREQUEST,
ciaddr = the leased address, message type 7, that server identifier, no
requested address, broadcast bit clear. -/
theorem C15_rfc_release (xid : Bytes) (ack : Pkt4) (user : List Modifier) (h : NoWriteTable5 user)
    (sid : Bytes) (hs : ack.opts.get optServerID = some sid) (hne : sid ≠ []) :
    Conforms .release (newReleaseFromAck xid ack user) ack.yiaddr sid := by
  obtain ⟨h1, h2, h3, h4, h5, h6⟩ := h
  have r := release xid ack user
  refine ⟨r.2.2.2.2.1 h1, r.1 h4, r.2.1 h2, ?_, ⟨(r.2.2.2.2.2 h6).1 sid hs hne, hne⟩, ?_⟩
  · show (build (.releaseFromAck ack) xid user).opts.get optRequestedIP = none
    rw [build_opt _ _ _ _ h5, releaseFromAck_nil]
    simp [optRequestedIP, optMessageType, optServerID]
  · show _ / 32768 % 2 = 0
    rw [(r.2.2.2.1 h3).2]

/-- **C15 (RFC 2131: REQUEST after SELECTING).** From any BOOTREPLY offer with
ciaddr 0 that names its server: BOOTREQUEST, ciaddr 0, message type 3, a
requested-address option and that server identifier. -/
theorem C15_rfc_request_selecting (xid : Bytes) (offer : Pkt4) (user : List Modifier)
    (h : NoWriteTable5 user) (hop : offer.op = opBootReply) (hci : IsZeroAddr offer.ciaddr)
    (sid : Bytes) (hs : offer.opts.get optServerID = some sid) (hne : sid ≠ []) :
    Conforms .requestSelecting (newRequestFromOffer xid offer user) none sid := by
  obtain ⟨h1, h2, _, h4, h5, h6⟩ := h
  have r := request_from_offer xid offer user
  refine ⟨r.2.2.2.2.2.2.2.2 h1 hop, r.2.1 h4, ?_, ⟨_, r.2.2.1 h5⟩, ⟨(r.2.2.2.1 h6).1 sid hs hne, hne⟩, trivial⟩
  show IsZeroAddr _
  rw [r.2.2.2.2.2.1 h2]; exact hci

/-- a relayed broadcast request with options 82 and 61, an empty option 54 -/
private def exReq : Pkt4 :=
  { op := 1, htype := 6, hw := [2, 0, 0, 0, 0, 1], hops := 1, xid := [0xde, 0xad, 0xbe, 0xef], secs := 3,
    flags := 0x8000, ciaddr := none, yiaddr := some [0, 0, 0, 0], siaddr := none,
    giaddr := some [10, 1, 0, 1], sname := [], file := [],
    opts := (((Opts.empty.set 53 [3]).set 82 [1, 2, 65, 66]).set 61 [1, 2, 0, 0, 0, 0, 1]).set 54 [] }

/-- an offer (BOOTREPLY) with a server identifier -/
private def exOffer : Pkt4 :=
  { op := 2, htype := 1, hw := [2, 0, 0, 0, 0, 1], hops := 0, xid := [1, 2, 3, 4], secs := 0,
    flags := 0x8000, ciaddr := some [0, 0, 0, 0], yiaddr := some [192, 168, 1, 77], siaddr := some [192, 168, 1, 1],
    giaddr := none, sname := [], file := [],
    opts := ((Opts.empty.set 53 [2]).set 54 [192, 168, 1, 1]).set 51 [0, 0, 14, 16] }

private def exUser : List Modifier :=
  [.withLeaseTime 3600, .withRouter [some [10, 0, 0, 1], none], .withUserClass [105, 80, 88, 69] true,
   .withNetmask [255, 255, 255, 0], .withYourIP (some [10, 0, 0, 9])]

example : NoWrite exUser .op ∧ NoWrite exUser .xid ∧ NoWrite exUser .htype ∧ NoWrite exUser .hw ∧
    NoWrite exUser .flags ∧ NoWrite exUser .giaddr ∧ NoWrite exUser .ciaddr ∧
    NoWrite exUser (.opt optAgentInfo) ∧ NoWrite exUser (.opt optClientID) ∧
    NoWrite exUser (.opt optMessageType) ∧ NoWrite exUser (.opt optRequestedIP) ∧
    NoWrite exUser (.opt optServerID) ∧ NoWrite exUser (.opt optParamList) := by decide

/-- the hypotheses of the `C15_rfc_*` theorems hold of `exOffer` and `exUser` -/
example : NoWriteTable5 exUser ∧ exOffer.op = opBootReply ∧ exOffer.op ≠ opBootRequest ∧
    IsZeroAddr exOffer.ciaddr ∧ exOffer.opts.get optServerID = some [192, 168, 1, 1] :=
  ⟨by decide, by decide, by decide, Or.inr (Or.inl rfl), by decide⟩

/-- the reply to `exReq` with five user modifiers: BOOTREPLY, same xid, 82
and 61 echoed, the empty 54 not copied -/
example : (newReplyFromRequest [0, 0, 0, 0] exReq exUser).op = 2 ∧
    (newReplyFromRequest [0, 0, 0, 0] exReq exUser).xid = [0xde, 0xad, 0xbe, 0xef] ∧
    (newReplyFromRequest [0, 0, 0, 0] exReq exUser).opts.get 82 = some [1, 2, 65, 66] ∧
    (newReplyFromRequest [0, 0, 0, 0] exReq exUser).opts.get 61 = some [1, 2, 0, 0, 0, 0, 1] ∧
    (newReplyFromRequest [0, 0, 0, 0] exReq exUser).opts.get 54 = none ∧
    (newReplyFromRequest [0, 0, 0, 0] exReq exUser).opts.get 51 = some [0, 0, 14, 16] := by decide

/-- a reply-typed input flips to BOOTREQUEST -/
example : (newReplyFromRequest [0, 0, 0, 0] exOffer []).op = 1 := by decide

example : ∃ v, exReq.opts.get optAgentInfo = some v ∧ v ≠ [] := ⟨[1, 2, 65, 66], by decide⟩
example : ¬ ∃ v, exReq.opts.get optServerID = some v ∧ v ≠ [] := by
  intro ⟨v, h1, h2⟩
  have : exReq.opts.get optServerID = some [] := by decide
  rw [this] at h1; cases h1; exact h2 rfl

/-- the request from `exOffer`: option 50 = 192.168.1.77, 54 = 192.168.1.1 -/
example : exOffer.yiaddr ≠ none ∧ exOffer.op = opBootReply ∧
    (newRequestFromOffer [9, 9, 9, 9] exOffer exUser).opts.get 50 = some [192, 168, 1, 77] ∧
    (newRequestFromOffer [9, 9, 9, 9] exOffer exUser).opts.get 54 = some [192, 168, 1, 1] ∧
    (newRequestFromOffer [9, 9, 9, 9] exOffer exUser).opts.get 55 = some [1, 3, 15, 6] ∧
    (newRequestFromOffer [9, 9, 9, 9] exOffer exUser).xid = [1, 2, 3, 4] := by decide

/-- renew from a broadcast ACK: bit 15 cleared -/
example : isBroadcast exOffer = true ∧ isBroadcast (newRenewFromAck [9, 9, 9, 9] exOffer exUser) = false ∧
    (newRenewFromAck [9, 9, 9, 9] exOffer exUser).ciaddr = some [192, 168, 1, 77] := by decide

/-- release, inform, discover on concrete values -/
example : (newReleaseFromAck [9, 9, 9, 9] exOffer exUser).opts.get 53 = some [7] ∧
    (newReleaseFromAck [9, 9, 9, 9] exOffer exUser).opts.get 54 = some [192, 168, 1, 1] ∧
    (newInform [9, 9, 9, 9] [2, 0, 0, 0, 0, 1] (some [10, 0, 0, 5]) exUser).ciaddr = some [10, 0, 0, 5] ∧
    (newDiscovery [9, 9, 9, 9] [2, 0, 0, 0, 0, 1] exUser).opts.get 55 = some [1, 3, 15, 6] := by decide

/-- a user modifier that collides with a default prevails: message type,
merged parameter request list (3 and the second 42 are dropped as duplicates;
`GenericOptionCode(1)` is not `==` to `OptionSubnetMask` and is added), removed
server identifier -/
example : (newRequestFromOffer [9, 9, 9, 9] exOffer
      [.withMessageType 4, .withRequestedOptions [.named 3, .named 42, .named 42, ⟨true, 1⟩], .withoutOption 54]).opts.get 53 = some [4] ∧
    (newRequestFromOffer [9, 9, 9, 9] exOffer
      [.withMessageType 4, .withRequestedOptions [.named 3, .named 42, .named 42, ⟨true, 1⟩], .withoutOption 54]).opts.get 55 = some [1, 3, 15, 6, 42, 1] ∧
    (newRequestFromOffer [9, 9, 9, 9] exOffer
      [.withMessageType 4, .withRequestedOptions [.named 3, .named 42, .named 42, ⟨true, 1⟩], .withoutOption 54]).opts.get 54 = none := by decide

end Dhcp.V4
