import DhcpProofs.Lemmas.ReadOnly
/-
  C20: calling any accessor or String/Summary method, any number of times and
  in any order, leaves the value — hence its later encoding and the results of
  every other accessor — unchanged, and repeated calls return equal results.

  Stated over the state-passing model of Dhcp/ReadOnly.lean for EVERY world
  (value type, outputs, results, and whatever a write would do) and every
  effect function; the hypothesis "the table entry of each operation used is
  false" is discharged for the regenerated table in
  DhcpProofs/Facts/ReadOnly.lean (`fact_no_read_method_writes`), where the
  theorems are also specialised to it.
-/
namespace Dhcp.Props.C20
open Dhcp.ReadOnly

variable {Val Out : Type}

/-- An operation whose table entry is `false` returns the receiver unchanged. -/
theorem C20_frame (effects : String → Bool) (w : World Val Out) (op : ReadOp) (v : Val)
    (h : effects op.name = false) : (read effects w op v).2 = v := by
  simp [Dhcp.ReadOnly.read, h]

/-- Any list of operations whose entries are all `false` — any length, any
    order, repetitions allowed — ends with the receiver it started from. -/
theorem C20_any_sequence_value (effects : String → Bool) (w : World Val Out) (ops : List ReadOp) (v : Val)
    (h : ∀ op ∈ ops, effects op.name = false) : (runReads effects w v ops).2 = v :=
  congrArg Prod.snd (runReads_eq effects w ops v h)

/-- ... hence its encoding is what it was, for any encoder, and so is what any
    observer (another accessor, a structural snapshot) sees, and the result of
    every other operation run afterwards. -/
theorem C20_any_sequence (effects : String → Bool) (w : World Val Out) (ops : List ReadOp) (v : Val)
    (h : ∀ op ∈ ops, effects op.name = false) :
    (runReads effects w v ops).2 = v
    ∧ (∀ {Wire : Type} (enc : Val → Wire), enc (runReads effects w v ops).2 = enc v)
    ∧ (∀ {Obs : Type} (observe : Val → Obs), observe (runReads effects w v ops).2 = observe v)
    ∧ (∀ other : ReadOp, (read effects w other (runReads effects w v ops).2).1 = (read effects w other v).1) := by
  have hv := C20_any_sequence_value effects w ops v h
  exact ⟨hv, fun enc => by rw [hv], fun obs => by rw [hv], fun other => by rw [hv]⟩

/-- Every output produced along such a sequence is the one the operation gives
    on the ORIGINAL value: where an operation sits in the sequence, and what
    ran before it, does not matter. -/
theorem C20_outputs (effects : String → Bool) (w : World Val Out) (ops : List ReadOp) (v : Val)
    (h : ∀ op ∈ ops, effects op.name = false) :
    (runReads effects w v ops).1 = ops.map (fun op => w.result op v) :=
  congrArg Prod.fst (runReads_eq effects w ops v h)

/-- Repeated calls return equal results: calling `op` again — immediately, or
    after any other read operations — gives the output of the first call. -/
theorem C20_idempotent (effects : String → Bool) (w : World Val Out) (op : ReadOp) (between : List ReadOp) (v : Val)
    (hop : effects op.name = false) (h : ∀ o ∈ between, effects o.name = false) :
    (read effects w op (runReads effects w (read effects w op v).2 between).2).1 = (read effects w op v).1 := by
  rw [C20_any_sequence_value effects w between _ h, C20_frame effects w op v hop]

/-- n consecutive calls of the same operation: n equal outputs, value unchanged. -/
theorem C20_repeat (effects : String → Bool) (w : World Val Out) (op : ReadOp) (n : Nat) (v : Val)
    (hop : effects op.name = false) :
    runReads effects w v (List.replicate n op) = (List.replicate n (w.result op v), v) := by
  rw [runReads_eq effects w _ v fun o ho => List.eq_of_mem_replicate ho ▸ hop, List.map_replicate]

/-- The old defect as a world: values are code lists, the encoding is the list
    itself, and `OptionCodeList.String` sorts its receiver in place. -/
def sortingWorld : World (List Nat) String where
  result := fun _ v => toString v
  scramble := fun _ v => isort v

def stringOp : ReadOp := ⟨"dhcpv4.OptionCodeList.String"⟩

/-- With the entry `true` (what the extractor reported before the fix in /repo)
    printing the parameter request list [3, 1] changes what is encoded next:
    [3, 1] before, [1, 3] after — the reproduced failing input of DESIGN.md F8. -/
theorem C20_old_counterexample :
    let effects : String → Bool := fun n => n == "dhcpv4.OptionCodeList.String"
    let enc : List Nat → List Nat := id
    enc (read effects sortingWorld stringOp [3, 1]).2 = [1, 3] ∧
    enc (read effects sortingWorld stringOp [3, 1]).2 ≠ enc [3, 1] := by
  decide

/-- In general: whenever an operation's entry is `true` there is a world (a
    scramble) and a value whose encoding the call changes — so the hypothesis of
    `C20_frame`/`C20_any_sequence` cannot be dropped, and the theorems say
    something only because the regenerated table says `false`. -/
theorem C20_true_entry_can_change_encoding (effects : String → Bool) (op : ReadOp) (h : effects op.name = true) :
    ∃ (w : World Bool Unit) (v : Bool) (enc : Bool → Bool), enc (read effects w op v).2 ≠ enc v := by
  refine ⟨⟨fun _ _ => (), fun _ b => !b⟩, true, id, ?_⟩
  simp [Dhcp.ReadOnly.read, h]

/-- ... and an output can change too: the second of two calls differs from the first. -/
theorem C20_true_entry_can_change_result (effects : String → Bool) (op : ReadOp) (h : effects op.name = true) :
    ∃ (w : World Bool Bool) (v : Bool), (read effects w op (read effects w op v).2).1 ≠ (read effects w op v).1 := by
  refine ⟨⟨fun _ b => b, fun _ b => !b⟩, true, ?_⟩
  simp [Dhcp.ReadOnly.read, h]

/-- The hypotheses are satisfiable by a non-trivial sequence: three different
    operations, one repeated, on a world whose scramble WOULD change the value. -/
example :
    let effects : String → Bool := fun n => n == "x.Setter"
    (runReads effects sortingWorld [3, 1] [⟨"a.String"⟩, ⟨"b.Summary"⟩, ⟨"a.String"⟩, ⟨"c.ToBytes"⟩]).2 = [3, 1]
    ∧ (runReads effects sortingWorld [3, 1] [⟨"a.String"⟩, ⟨"x.Setter"⟩]).2 = [1, 3] := by
  decide

end Dhcp.Props.C20
