import DhcpProofs.Lemmas.V6BuildReply
import DhcpProofs.Lemmas.V6BuildMsg
import DhcpProofs.Lemmas.V6BuildIndex
import DhcpProofs.Lemmas.C03Decoded
import DhcpProofs.Lemmas.V6EncGrammar
/-
  C16 — DHCPv6 builders and relay encapsulation preserve identity and nesting.
  Model: Dhcp/V6/Build.lean (EncapsulateRelay, DecapsulateRelay,
  GetInnerMessage, NewRelayReplFromRelayForw, NewAdvertiseFromSolicit,
  NewRequestFromAdvertise, NewReplyFromMessage); vocabulary of the statements:
  Dhcp/Spec/Relay6.lean (`encapAll`, `Chain`, `Broken`, `replyOf`).
  All theorems hold for every message / chain: no bound on depth, number of
  options or option contents.
-/
namespace Dhcp.Props
open Dhcp.V6 Dhcp.Spec

/-- **C16 (decapsulate ∘ encapsulate).** For the two relay types the relay
message is built and decapsulating it returns the original — any message
(relay or not), any addresses (nil included). -/
theorem C16_decap_encap (m : Msg6) (t : UInt8) (l p : IP) (ht : isRelayType t = true) :
    ∃ c, encapsulateRelay m t l p = .ok c ∧ decapsulateRelay c = .ok m :=
  ⟨_, encapsulateRelay_ok l p ht, by simp [decapsulateRelay]⟩

/-- any other message type is refused -/
theorem C16_encap_rejects (m : Msg6) (t : UInt8) (l p : IP) (ht : isRelayType t = false) :
    encapsulateRelay m t l p = .err :=
  encapsulateRelay_err l p ht

/-- the relay message built carries the given type and addresses and nothing
but the relay-message option -/
theorem C16_encap_shape (m : Msg6) (t : UInt8) (l p : IP) (ht : isRelayType t = true) :
    ∃ h, encapsulateRelay m t l p = .ok (.relay t h l p [.relayMsg m]) :=
  ⟨_, encapsulateRelay_ok l p ht⟩

/-- **C16 (hop count grows by one per level).** Encapsulating a relay message
with hop count `h` gives hop count `h + 1` (uint8 arithmetic: 255 + 1 = 0);
encapsulating a non-relay message gives 0. -/
theorem C16_hop_step (t h : UInt8) (l p : IP) (os : List Opt6) (t' : UInt8) (l' p' : IP)
    (ht : isRelayType t' = true) :
    encapsulateRelay (.relay t h l p os) t' l' p' =
      .ok (.relay t' (h + 1) l' p' [.relayMsg (.relay t h l p os)]) :=
  encapsulateRelay_ok l' p' ht

theorem C16_hop_zero (t : UInt8) (x : Bytes) (os : List Opt6) (t' : UInt8) (l' p' : IP)
    (ht : isRelayType t' = true) :
    encapsulateRelay (.msg t x os) t' l' p' = .ok (.relay t' 0 l' p' [.relayMsg (.msg t x os)]) :=
  encapsulateRelay_ok l' p' ht

/-- **C16 (hop count of an n-fold encapsulation).** Wrapping a non-relay
message `n = |hs| ≥ 1` times gives a relay message with the outermost header's
type and addresses and hop count `n - 1` as a uint8; when `n ≤ 256` that is the
number `n - 1` itself (for larger `n` the Go field wraps around). -/
theorem C16_hop (m : Msg6) (hm : m.isRelay = false) (h : Hdr) (rest : List Hdr)
    (ht : ∀ x ∈ h :: rest, isRelayType x.typ = true) :
    ∃ hops os, encapAll m (h :: rest) = .ok (.relay h.typ hops h.link h.peer os) ∧
      hops = UInt8.ofNat ((h :: rest).length - 1) ∧
      ((h :: rest).length ≤ 256 → hops.toNat = (h :: rest).length - 1) := by
  refine ⟨_, _, encapAll_eq_wrapAll m _ ht, by simpa using hopsFor_wrapAll m hm rest, fun hn => ?_⟩
  rw [hopsFor_wrapAll m hm rest]
  simp only [List.length_cons] at hn
  simp only [List.length_cons, Nat.add_sub_cancel]
  exact UInt8.toNat_ofNat_lt (by omega)

/-- **C16 (DecapsulateRelayIndex).** On the n-fold encapsulation `c` of a
non-relay message: index `k ≥ 0` returns what is left after removing the `k+1`
outermost levels (the message itself once `k+1 ≥ n`), index `-1` returns the
innermost RELAY message (one level around the message, not the message), and
any index below `-1` is an error. -/
theorem C16_decap_index (m : Msg6) (hm : m.isRelay = false) (h : Hdr) (rest : List Hdr)
    (ht : ∀ x ∈ h :: rest, isRelayType x.typ = true) :
    ∃ c, encapAll m (h :: rest) = .ok c ∧
      (∀ k : Nat, decapsulateRelayIndex c (k : Int) = encapAll m ((h :: rest).drop (k + 1))) ∧
      decapsulateRelayIndex c (-1) = encapAll m [(h :: rest).getLast (by simp)] ∧
      (∀ i : Int, i < -1 → decapsulateRelayIndex c i = .err) := by
  refine ⟨wrapAll m (h :: rest), encapAll_eq_wrapAll m _ ht, ?_, ?_, ?_⟩
  · intro k
    rw [encapAll_eq_wrapAll m _ (fun x hx => ht x (List.mem_of_mem_drop hx)),
      decapsulateRelayIndex_nat (wrapAll_isRelay m h rest)]
    exact decapN_wrapAll m hm (k + 1) (h :: rest)
  · rw [encapAll_eq_wrapAll m _ (fun x hx => List.mem_singleton.mp hx ▸ ht _ (List.getLast_mem _)),
      decapsulateRelayIndex_neg_one (wrapAll_isRelay m h rest)]
    exact lastRelay_wrapAll m hm rest h _ (by rw [msgDepth_wrapAll m hm]; exact Nat.lt_succ_of_le (Nat.le_succ _))
  · exact fun i hi => decapsulateRelayIndex_lt (wrapAll_isRelay m h rest) hi

/-- **C16 (innermost message of an n-fold encapsulation).** For every `n ≥ 1`
and every choice of relay types and addresses, `GetInnerMessage` of the n-fold
encapsulation of a non-relay message returns that message. -/
theorem C16_inner (m : Msg6) (hm : m.isRelay = false) (h : Hdr) (rest : List Hdr)
    (ht : ∀ x ∈ h :: rest, isRelayType x.typ = true) :
    ∃ c, encapAll m (h :: rest) = .ok c ∧ getInnerMessage c = .ok m := by
  obtain ⟨lv, hc⟩ := wrapAll_chain m hm rest h
  exact ⟨_, encapAll_eq_wrapAll m _ ht, getInnerMessage_chain hc⟩

/-- **C16 (…also after a trip over the wire).** Under the C02 round-trip
hypothesis for the chain (`dec6 (encMsg c) = ok c`, proved separately for the
round-trip domain), decoding the encoded chain and asking for the innermost
message returns the original message. -/
theorem C16_inner_wire (m : Msg6) (hm : m.isRelay = false) (h : Hdr) (rest : List Hdr)
    (ht : ∀ x ∈ h :: rest, isRelayType x.typ = true) (c : Msg6)
    (hc : encapAll m (h :: rest) = .ok c) (hwire : dec6 (encMsg c) = .ok c) :
    (dec6 (encMsg c)).bind getInnerMessage = .ok m := by
  obtain ⟨c', h1, h2⟩ := C16_inner m hm h rest ht
  rw [hc] at h1
  cases h1
  rw [hwire]
  exact h2

/-- **C16 (… after a trip over the wire, composed with the round trip).** For a
chain in the round-trip domain of C02 (`WFMsg c`: 16-byte link and peer
addresses, relay types, well-formed options whose encodings fit their 16-bit
lengths, at every level) the hypothesis of `C16_inner_wire` is discharged by
`dec6_encMsg` (= `C02_roundtrip`): encoding the n-fold encapsulation, decoding
it and asking for the innermost message returns the message that was wrapped. -/
theorem C16_inner_wire_wf (m : Msg6) (hm : m.isRelay = false) (h : Hdr) (rest : List Hdr)
    (ht : ∀ x ∈ h :: rest, isRelayType x.typ = true) (c : Msg6)
    (hc : encapAll m (h :: rest) = .ok c) (hwf : WFMsg c) :
    (dec6 (encMsg c)).bind getInnerMessage = .ok m :=
  C16_inner_wire m hm h rest ht c hc (dec6_encMsg c hwf)

/-- non-vacuity: a SOLICIT wrapped twice (RELAY-FORW in RELAY-FORW) is in the
round-trip domain, so the theorem above applies to it -/
example :
    let m : Msg6 := .msg 1 [7, 8, 9] [.generic 4242 [1, 2, 3]]
    let hs : List Hdr := [⟨12, some (zeros 16), some (zeros 16)⟩, ⟨12, some (zeros 16), some (zeros 16)⟩]
    ∃ c, encapAll m hs = .ok c ∧ WFMsg c ∧ (dec6 (encMsg c)).bind getInnerMessage = .ok m := by
  intro m hs
  have hz : IP16 (some (zeros 16)) := ⟨zeros 16, rfl, by simp⟩
  have hwf : WFMsg (.relay 12 1 (some (zeros 16)) (some (zeros 16))
      [.relayMsg (.relay 12 0 (some (zeros 16)) (some (zeros 16)) [.relayMsg m])]) := by
    refine ⟨by decide, hz, hz, ?_, by decide, trivial⟩
    refine ⟨by decide, hz, hz, ?_, by decide, trivial⟩
    exact ⟨by decide, by decide, ⟨by decide, by decide⟩, by decide, trivial⟩
  exact ⟨_, rfl, hwf, C16_inner_wire_wf m rfl ⟨12, some (zeros 16), some (zeros 16)⟩
    [⟨12, some (zeros 16), some (zeros 16)⟩] (by decide) _ rfl hwf⟩

/-- **C16 (innermost message of ANY relay chain).** Whatever other options the
levels carry and wherever the relay-message option sits among them: if following
the relay-message options leads to a non-relay message, `GetInnerMessage`
returns it, at every depth. -/
theorem C16_inner_chain (c inner : Msg6) (lv : List RLevel) (h : Chain c lv inner) :
    getInnerMessage c = .ok inner :=
  getInnerMessage_chain h

/-- a level without relay-message option makes `GetInnerMessage` fail -/
theorem C16_inner_broken (c : Msg6) (h : Broken c) : getInnerMessage c = .err :=
  getInnerMessage_broken h

/-- `GetInnerMessage` never panics, and every relay message is a chain or broken
(so the two theorems above cover every relay message) -/
theorem C16_inner_total (c : Msg6) :
    getInnerMessage c ≠ .panic ∧
    (c.isRelay = true → (∃ lv inner, Chain c lv inner) ∨ Broken c) :=
  ⟨getInnerMessage_ne_panic c, chain_or_broken c⟩

/-- the loop's fuel is irrelevant: the out-of-fuel branch of the model is never
taken (every fuel ≥ the nesting depth gives the same answer) -/
theorem C16_inner_fuel (c : Msg6) (hc : c.isRelay = true) (fuel : Nat) (hf : msgDepth c ≤ fuel) :
    innerLoop fuel c = getInnerMessage c := by
  obtain ⟨t, h, l, p, os, rfl⟩ := isRelay_iff.mp hc
  exact innerLoop_fuel fuel _ _ hc hf (Nat.le_succ _)

/-- **C16 (relay-reply, exact form).** For a relay-forward chain with levels
`fl` (any depth) around any non-relay innermost message, and a reply `msg` that is
not itself a relay message (`hm`; a relay `msg` would get its own hop count + 1 at the
innermost level, not the 0 of `replyOf`), the builder returns exactly `replyOf msg fl`. -/
theorem C16_relay_reply_exact (relay msg inner : Msg6) (fl : List RLevel)
    (hc : Chain relay fl inner) (ht : relay.typ = relayForward) (hm : msg.isRelay = false) :
    newRelayReplFromRelayForw relay msg = .ok (replyOf msg fl) := by
  rw [newRelayRepl_eq_collectOf relay msg ht, collectOf_chain hc _ hc.length_le_depth]
  exact rebuild_levels msg hm fl

/-- **C16 (relay-reply, clause by clause).** For a non-relay `msg`, the result is a chain of the same
depth whose innermost message is `msg`; at every level `i` (0 = outermost) the
type is RELAY-REPL, link and peer address are those of level `i` of the input,
the hop count is what `EncapsulateRelay` assigns (`depth - 1 - i` as uint8), and
the first interface-id / remote-id option is present iff the input level has one
and then equal to the input's first one. -/
theorem C16_relay_reply (relay msg inner : Msg6) (fl : List RLevel)
    (hc : Chain relay fl inner) (ht : relay.typ = relayForward) (hm : msg.isRelay = false) :
    ∃ out rl, newRelayReplFromRelayForw relay msg = .ok out ∧ Chain out rl msg ∧
      rl.length = fl.length ∧
      (∀ i (h1 : i < fl.length) (h2 : i < rl.length),
        rl[i].typ = relayReply ∧ rl[i].link = fl[i].link ∧ rl[i].peer = fl[i].peer ∧
        rl[i].hops = UInt8.ofNat (fl.length - 1 - i) ∧
        getOne ocInterfaceID rl[i].opts = getOne ocInterfaceID fl[i].opts ∧
        getOne ocRemoteID rl[i].opts = getOne ocRemoteID fl[i].opts) ∧
      getInnerMessage out = .ok msg := by
  have hex := C16_relay_reply_exact relay msg inner fl hc ht hm
  obtain ⟨lv, rest, rfl⟩ : ∃ lv rest, fl = lv :: rest := by cases hc <;> exact ⟨_, _, rfl⟩
  have hch := replyOf_chain msg hm rest lv
  refine ⟨_, _, hex, hch, replyLevels_length msg _, ?_, getInnerMessage_chain hch⟩
  intro i h1 h2
  rw [replyLevels_get msg _ i h1 h2]
  exact ⟨rfl, rfl, rfl, rfl, getOne_echo_iid _ rfl _, getOne_echo_rid _ rfl _⟩

/-- **C16 (relay-reply rejects).** An outermost type other than RELAY-FORW, or a
level without relay-message option anywhere in the chain, gives an error; the
builder never panics — on any value, decoded or constructed. -/
theorem C16_relay_reply_rejects (relay msg : Msg6) :
    (relay.typ ≠ relayForward → newRelayReplFromRelayForw relay msg = .err) ∧
    (Broken relay → newRelayReplFromRelayForw relay msg = .err) ∧
    newRelayReplFromRelayForw relay msg ≠ .panic := by
  have h1 : relay.typ ≠ relayForward → newRelayReplFromRelayForw relay msg = .err := by
    intro ht
    cases relay with
    | msg t x os => rfl
    | relay t h l p os => simp only [Msg6.typ] at ht; simp [newRelayReplFromRelayForw, ht]
  have h2 : Broken relay → newRelayReplFromRelayForw relay msg = .err := by
    intro hb
    by_cases ht : relay.typ = relayForward
    · rw [newRelayRepl_eq_collectOf relay msg ht, collectOf_broken hb]; rfl
    · exact h1 ht
  refine ⟨h1, h2, ?_⟩
  by_cases ht : relay.typ = relayForward
  · cases hr : relay.isRelay with
    | false => obtain ⟨t, x, os, rfl⟩ := not_isRelay_iff.mp hr; simp [newRelayReplFromRelayForw]
    | true =>
      rcases chain_or_broken relay hr with ⟨fl, _, hc⟩ | hb
      · obtain ⟨r, hr⟩ := rebuild_ok msg (fl.map toLevel)
        simp [newRelayRepl_eq_collectOf relay msg ht, collectOf_chain hc _ hc.length_le_depth, Res.bind, hr]
      · simp [h2 hb]
  · simp [h1 ht]

/-! ### advertise / request / reply (what the code does: see DESIGN.md section 6, C16, "As built") -/

/-- **C16 (advertise).** From a SOLICIT carrying a client identifier the
ADVERTISE keeps the transaction id and carries exactly the (first) client-id
option — the code echoes NO identity association here; another message type or
a missing client id is an error; no panic. -/
theorem C16_advertise (t : UInt8) (xid : Bytes) (os : List Opt6) :
    (∀ cid, t = mtSolicit → getOne ocClientID os = some cid →
      newAdvertiseFromSolicit (.msg t xid os) [] = .ok (.msg mtAdvertise xid [cid])) ∧
    (t ≠ mtSolicit → newAdvertiseFromSolicit (.msg t xid os) [] = .err) ∧
    (getOne ocClientID os = none → newAdvertiseFromSolicit (.msg t xid os) [] = .err) ∧
    newAdvertiseFromSolicit (.msg t xid os) [] ≠ .panic := by
  by_cases ht : t = mtSolicit <;> cases hc : getOne ocClientID os <;>
    simp [newAdvertiseFromSolicit, ht, hc]

/-- **C16 (request).** From an ADVERTISE with client id, server id and a
(well-typed) IA_NA, the REQUEST has the fresh transaction id `xid` (not the
ADVERTISE's), and its options are exactly: first client id, first server id,
elapsed-time 0, the FIRST IA_NA, the first IA_PD if any, an option request for
DNS servers and domain search list, the first vendor class if any. -/
theorem C16_request (xid axid : Bytes) (os : List Opt6) (cid sid ia : Opt6)
    (hc : getOne ocClientID os = some cid) (hs : getOne ocServerID os = some sid)
    (hi : getOne ocIANA os = some ia) (hty : IANATyped os) :
    newRequestFromAdvertise xid (.msg mtAdvertise axid os) [] =
      .ok (.msg mtRequest xid
        ([cid, sid, .elapsed 0, ia] ++ (getOne ocIAPD os).toList ++
          [.oro [ocDNS, ocDomainSearchList]] ++ (getOne ocVendorClass os).toList)) := by
  simp only [newRequestFromAdvertise, hc, hs, oneIANAOf_typed hty, hi, applyMods_nil]
  simp

/-- **C16 (request rejects).** Wrong message type, or no client id, or no
server id, or (options well typed and) no IA_NA: error; no panic on well-typed
options. -/
theorem C16_request_rejects (xid axid : Bytes) (t : UInt8) (os : List Opt6) :
    (t ≠ mtAdvertise → newRequestFromAdvertise xid (.msg t axid os) [] = .err) ∧
    (getOne ocClientID os = none → newRequestFromAdvertise xid (.msg t axid os) [] = .err) ∧
    (getOne ocServerID os = none → newRequestFromAdvertise xid (.msg t axid os) [] = .err) ∧
    (IANATyped os → getOne ocIANA os = none → newRequestFromAdvertise xid (.msg t axid os) [] = .err) ∧
    (IANATyped os → newRequestFromAdvertise xid (.msg t axid os) [] ≠ .panic) := by
  by_cases ht : t = mtAdvertise <;> cases hc : getOne ocClientID os <;>
    cases hs : getOne ocServerID os <;> cases hi : getOne ocIANA os <;>
    (refine ⟨?_, ?_, ?_, ?_, ?_⟩ <;> intros <;>
      simp_all [newRequestFromAdvertise, oneIANAOf_typed])

/-- what the code does outside the decoder's range: with client and server id
present, an option that carries the IA_NA code but is not an `*OptIANA` (only
constructible by hand, e.g. `OptionGeneric{OptionCode: 3}`) makes the builder
panic (unchecked `o.(*OptIANA)` in `MessageOptions.IANA`). -/
theorem C16_request_panics (xid axid : Bytes) (os : List Opt6) (cid sid : Opt6)
    (hc : getOne ocClientID os = some cid) (hs : getOne ocServerID os = some sid)
    (hty : ¬ IANATyped os) :
    newRequestFromAdvertise xid (.msg mtAdvertise axid os) [] = .panic := by
  simp only [newRequestFromAdvertise, hc, hs, oneIANAOf_untyped hty]
  simp

/-- on DECODED messages the request builder never panics: the decoder parses the
IA_NA code into `*OptIANA` only (`dec6_typed`), so the unchecked assertion holds
(all byte strings, any user-modifier-free call) -/
theorem C16_request_decoded (b : Bytes) (adv : Msg6) (xid : Bytes) (h : dec6 b = .ok adv) :
    newRequestFromAdvertise xid adv [] ≠ .panic := by
  cases adv with
  | relay t hc l p os => simp [newRequestFromAdvertise]
  | msg t x os =>
    exact (C16_request_rejects xid x t os).2.2.2.2 fun o ho => (dec6_typed h o ho).1

/-- **C16 (reply).** From REQUEST, CONFIRM, RENEW, REBIND, RELEASE or
INFORMATION-REQUEST carrying a client id the REPLY keeps the transaction id and
carries exactly the (first) client-id option; from a SOLICIT with a rapid-commit
option it carries the client id and a rapid-commit option.  The code echoes
neither a server id nor identity associations. -/
theorem C16_reply (t : UInt8) (xid : Bytes) (os : List Opt6) (cid : Opt6)
    (hc : getOne ocClientID os = some cid) :
    (replyableTypes.contains t = true →
      newReplyFromMessage (.msg t xid os) [] = .ok (.msg mtReply xid [cid])) ∧
    (t = mtSolicit → (getOne ocRapidCommit os).isSome = true →
      newReplyFromMessage (.msg t xid os) [] = .ok (.msg mtReply xid [cid, .generic ocRapidCommit []])) := by
  refine ⟨fun ht => ?_, fun ht hr => ?_⟩
  · simp only [newReplyFromMessage, replyMods_replyable ht, hc, applyMods_nil]
  · subst ht
    have hr' : (getOne ocRapidCommit os).isNone = false := by
      cases h : getOne ocRapidCommit os <;> simp [h] at hr ⊢
    have hu : update (Opt6.generic ocRapidCommit []) [cid] = [cid, .generic ocRapidCommit []] :=
      update_of_getOne_none (by rw [getOne_cons, getOne_code hc]; rfl)
    simp only [newReplyFromMessage, replyMods_solicit, hr', hc, applyMods, applyMod, Res.bind,
      Msg6.updateOption, hu, Bool.false_eq_true, if_false]

/-- **C16 (reply rejects).** Any other message type (ADVERTISE, REPLY, DECLINE,
RECONFIGURE, relay types, unknown), a SOLICIT without rapid-commit, or a missing
client id: error; no panic. -/
theorem C16_reply_rejects (t : UInt8) (xid : Bytes) (os : List Opt6) :
    (t ≠ mtSolicit → replyableTypes.contains t = false →
      newReplyFromMessage (.msg t xid os) [] = .err) ∧
    (t = mtSolicit → getOne ocRapidCommit os = none → newReplyFromMessage (.msg t xid os) [] = .err) ∧
    (getOne ocClientID os = none → newReplyFromMessage (.msg t xid os) [] = .err) ∧
    newReplyFromMessage (.msg t xid os) [] ≠ .panic := by
  refine ⟨fun h1 h2 => ?_, fun h1 h2 => ?_, fun hc => ?_, ?_⟩
  · simp only [newReplyFromMessage, replyMods_other h1 h2]
  · subst h1
    simp only [newReplyFromMessage, replyMods_solicit, h2, Option.isNone_none, if_true]
  · simp only [newReplyFromMessage, hc]
    split <;> rfl
  · simp only [newReplyFromMessage]
    rcases replyMods_nil t os with h | h | h <;> rw [h] <;> cases getOne ocClientID os <;>
      simp [applyMods, applyMod, Res.bind]

/-- user modifiers are applied, in order, to the message the theorems above
describe (all three builders; for a SOLICIT `WithRapidCommit` is already part of
the message described) -/
theorem C16_modifiers (m : Msg6) (xid : Bytes) (mods : List Mod6) :
    newAdvertiseFromSolicit m mods = (newAdvertiseFromSolicit m []).bind (fun a => applyMods a mods) ∧
    newRequestFromAdvertise xid m mods =
      (newRequestFromAdvertise xid m []).bind (fun a => applyMods a mods) ∧
    newReplyFromMessage m mods = (newReplyFromMessage m []).bind (fun a => applyMods a mods) := by
  cases m with
  | relay t h l p os => exact ⟨rfl, rfl, rfl⟩
  | msg t x os =>
    refine ⟨?_, ?_, ?_⟩
    · by_cases ht : t = mtSolicit <;> cases hc : getOne ocClientID os <;>
        simp [newAdvertiseFromSolicit, ht, hc, Res.bind]
    · by_cases ht : t = mtAdvertise <;> cases hc : getOne ocClientID os <;>
        cases hs : getOne ocServerID os <;> cases hi : oneIANAOf os <;>
        simp [newRequestFromAdvertise, ht, hc, hs, hi, Res.bind]
      next o => cases o <;> simp
    · simp only [newReplyFromMessage]
      rw [replyMods_append t os mods]
      cases replyMods t os [] with
      | none => rfl
      | some pre =>
        cases hc : getOne ocClientID os with
        | none => rfl
        | some cid => exact applyMods_append _ pre mods

/-- **C16 (`UpdateOption`, both `*Message` and `*RelayMessage`; `Options.Update`).**
The header is kept.  When no option carries the new option's code it is
APPENDED; otherwise exactly the FIRST option of that code is replaced in place
and everything else — later options of the same code included — stays where it
was.  Consequently the first option of that code afterwards is the new one,
the options of every other code are untouched, and the length grows by one
exactly when the code was absent. -/
theorem C16_update (m : Msg6) (o : Opt6) :
    (m.updateOption o).typ = m.typ ∧ (m.updateOption o).isRelay = m.isRelay ∧
    (m.updateOption o).opts = update o m.opts ∧
    (getOne o.code m.opts = none → update o m.opts = m.opts ++ [o]) ∧
    (∀ pre x post, m.opts = pre ++ x :: post → (∀ y ∈ pre, y.code ≠ o.code) → x.code = o.code →
      update o m.opts = pre ++ o :: post) ∧
    getOne o.code (update o m.opts) = some o ∧
    get o.code (update o m.opts) = o :: (get o.code m.opts).tail ∧
    (∀ c, o.code ≠ c → get c (update o m.opts) = get c m.opts) ∧
    (update o m.opts).length = if (getOne o.code m.opts).isSome then m.opts.length else m.opts.length + 1 := by
  rw [updateOption_eq]
  refine ⟨by simp, by simp, by simp, update_of_getOne_none, ?_, getOne_update_self _ _,
    get_update_self _ _, fun c hc => get_update_other _ _ hc, update_length _ _⟩
  intro pre x post he hpre hx
  rw [he]; exact update_split hpre hx

/-- the header fields other than type survive too (stated on the constructors) -/
theorem C16_update_header (o : Opt6) :
    (∀ t x os, (Msg6.msg t x os).updateOption o = .msg t x (update o os)) ∧
    (∀ t h l p os, (Msg6.relay t h l p os).updateOption o = .relay t h l p (update o os)) :=
  ⟨fun _ _ _ => rfl, fun _ _ _ _ _ => rfl⟩

/-- **C16 (`AddOption`).** The option is appended, whatever is already there. -/
theorem C16_add (o : Opt6) :
    (∀ t x os, (Msg6.msg t x os).addOption o = .msg t x (os ++ [o])) ∧
    (∀ t h l p os, (Msg6.relay t h l p os).addOption o = .relay t h l p (os ++ [o])) :=
  ⟨fun _ _ _ => rfl, fun _ _ _ _ _ => rfl⟩

/-- **C16 (`Options.Del`).** EVERY option of the code is removed (not only the
first); the others keep their relative order (the result is a sub-list, and
the options of every other code are exactly those before); deleting an absent
code changes nothing; the header is kept. -/
theorem C16_del (m : Msg6) (c : Nat) :
    (m.delOption c).typ = m.typ ∧ (m.delOption c).isRelay = m.isRelay ∧
    (m.delOption c).opts = del c m.opts ∧
    (∀ o, o ∈ del c m.opts ↔ o ∈ m.opts ∧ o.code ≠ c) ∧
    getOne c (del c m.opts) = none ∧
    (∀ d, d ≠ c → get d (del c m.opts) = get d m.opts) ∧
    (del c m.opts).Sublist m.opts ∧
    (getOne c m.opts = none → del c m.opts = m.opts) := by
  rw [delOption_eq]
  refine ⟨by simp, by simp, by simp, fun o => mem_del, ?_, fun d hd => get_del_other _ hd,
    del_sublist _ _, del_of_absent⟩
  rw [← get_head?, get_del_self]; rfl

/-- `Update` after `Del` of the same code appends; `Del` after `Update` removes
the new option together with every other one of its code -/
theorem C16_del_update (o : Opt6) (os : List Opt6) :
    update o (del o.code os) = del o.code os ++ [o] ∧ del o.code (update o os) = del o.code os := by
  constructor
  · apply update_of_getOne_none
    rw [← get_head?, get_del_self]; rfl
  · rcases update_cases o os with ⟨_, _, e⟩ | ⟨pre, x, post, _, rfl, _, hx, e⟩ <;> rw [e]
    · simp [del]
    · simp [del, hx]

/-- **C16 (`WithFQDN`, `WithDomainSearchList`).** Both work on messages and on
relay messages alike: the option — holding a FRESH label set (`original` nil)
with the given name(s), in the given order — goes through `UpdateOption`, so
`C16_update` says where it lands; afterwards it is the first option of its code. -/
theorem C16_mod_names (m : Msg6) (f : UInt8) (name : Bytes) (names : List Bytes) :
    applyMod m (.fqdn f name) = .ok (m.updateOption (.fqdn f ⟨none, [name]⟩)) ∧
    applyMod m (.domainSearchList names) = .ok (m.updateOption (.domainSearch ⟨none, names⟩)) ∧
    getOne ocFQDN (m.updateOption (.fqdn f ⟨none, [name]⟩)).opts = some (.fqdn f ⟨none, [name]⟩) ∧
    getOne ocDomainSearchList (m.updateOption (.domainSearch ⟨none, names⟩)).opts =
      some (.domainSearch ⟨none, names⟩) := by
  refine ⟨rfl, rfl, ?_, ?_⟩
  · rw [updateOption_eq, withOpts_opts]; exact getOne_update_self (.fqdn f ⟨none, [name]⟩) _
  · rw [updateOption_eq, withOpts_opts]; exact getOne_update_self (.domainSearch ⟨none, names⟩) _

/-- **C16 (`WithIANA`).** On a relay message nothing happens.  On a message whose
code-3 options are all `*OptIANA` (always so after decoding): with no IA_NA a
new one — IAID 00000000, T1 = T2 = 0 — holding exactly the given addresses is
APPENDED; otherwise the given addresses are appended, in order, to the
sub-options of the FIRST IA_NA, which keeps its place, IAID, T1, T2 and earlier
sub-options, and nothing else changes.  An option that carries code 3 without
being an `*OptIANA` (hand-built only) makes the modifier panic. -/
theorem C16_mod_ianaAddrs (t : UInt8) (xid : Bytes) (os : List Opt6) (addrs : List IAAddr) :
    (∀ h l p, applyMod (.relay t h l p os) (.ianaAddrs addrs) = .ok (.relay t h l p os)) ∧
    (IANATyped os → getOne ocIANA os = none →
      applyMod (.msg t xid os) (.ianaAddrs addrs) =
        .ok (.msg t xid (os ++ [.iana (zeros 4) 0 0 (addrs.map IAAddr.toOpt)]))) ∧
    (∀ pre id t1 t2 sub post, IANATyped os → os = pre ++ .iana id t1 t2 sub :: post →
      (∀ y ∈ pre, y.code ≠ ocIANA) →
      applyMod (.msg t xid os) (.ianaAddrs addrs) =
        .ok (.msg t xid (pre ++ .iana id t1 t2 (sub ++ addrs.map IAAddr.toOpt) :: post))) ∧
    (¬ IANATyped os → applyMod (.msg t xid os) (.ianaAddrs addrs) = .panic) := by
  refine ⟨fun _ _ _ => rfl, ?_, ?_, ?_⟩
  · intro hty hn
    simp only [applyMod, oneIANAOf_typed hty, hn, Msg6.updateOption]
    rw [update_of_getOne_none (o := .iana (zeros 4) 0 0 _) hn]
  · intro pre id t1 t2 sub post hty he hpre
    have hg : getOne ocIANA os = some (.iana id t1 t2 sub) := he ▸ getOne_split hpre rfl
    simp only [applyMod, oneIANAOf_typed hty, hg, Msg6.updateOption]
    rw [he, update_split (o := .iana id t1 t2 (sub ++ addrs.map IAAddr.toOpt)) (x := .iana id t1 t2 sub) hpre rfl]
  · intro hty
    simp only [applyMod, oneIANAOf_untyped hty]

/-- **C16 (`WithIATA`).** As `WithIANA` for the IA_TA code (4), and the IAID of
the (first or new) IA_TA is SET to the given one (`copy` into the 4-byte array). -/
theorem C16_mod_iata (t : UInt8) (xid : Bytes) (os : List Opt6) (id : Bytes) (addrs : List IAAddr) :
    (∀ h l p, applyMod (.relay t h l p os) (.iata id addrs) = .ok (.relay t h l p os)) ∧
    (CodeTyped ocIATA Opt6.isIATA os → getOne ocIATA os = none →
      applyMod (.msg t xid os) (.iata id addrs) =
        .ok (.msg t xid (os ++ [.iata (copyInto 4 id) (addrs.map IAAddr.toOpt)]))) ∧
    (∀ pre id0 sub post, CodeTyped ocIATA Opt6.isIATA os → os = pre ++ .iata id0 sub :: post →
      (∀ y ∈ pre, y.code ≠ ocIATA) →
      applyMod (.msg t xid os) (.iata id addrs) =
        .ok (.msg t xid (pre ++ .iata (copyInto 4 id) (sub ++ addrs.map IAAddr.toOpt) :: post))) ∧
    (¬ CodeTyped ocIATA Opt6.isIATA os → applyMod (.msg t xid os) (.iata id addrs) = .panic) := by
  refine ⟨fun _ _ _ => rfl, ?_, ?_, ?_⟩
  · intro hty hn
    simp only [applyMod, oneIATAOf_typed hty, hn, Msg6.updateOption]
    rw [update_of_getOne_none (o := .iata _ _) hn]
  · intro pre id0 sub post hty he hpre
    have hg : getOne ocIATA os = some (.iata id0 sub) := he ▸ getOne_split hpre rfl
    simp only [applyMod, oneIATAOf_typed hty, hg, Msg6.updateOption]
    rw [he, update_split (o := .iata (copyInto 4 id) (sub ++ addrs.map IAAddr.toOpt)) (x := .iata id0 sub) hpre rfl]
  · intro hty
    simp only [applyMod, oneIATAOf_untyped hty]

/-- **C16 (`WithIAPD`).** As `WithIATA` for the IA_PD code (25): the prefixes are
appended to the first IA_PD's sub-options (T1, T2 kept) or to a new IA_PD with
T1 = T2 = 0, whose IAID is set to the given one. -/
theorem C16_mod_iapd (t : UInt8) (xid : Bytes) (os : List Opt6) (id : Bytes) (pfxs : List IAPfx) :
    (∀ h l p, applyMod (.relay t h l p os) (.iapd id pfxs) = .ok (.relay t h l p os)) ∧
    (CodeTyped ocIAPD Opt6.isIAPD os → getOne ocIAPD os = none →
      applyMod (.msg t xid os) (.iapd id pfxs) =
        .ok (.msg t xid (os ++ [.iapd (copyInto 4 id) 0 0 (pfxs.map IAPfx.toOpt)]))) ∧
    (∀ pre id0 t1 t2 sub post, CodeTyped ocIAPD Opt6.isIAPD os →
      os = pre ++ .iapd id0 t1 t2 sub :: post → (∀ y ∈ pre, y.code ≠ ocIAPD) →
      applyMod (.msg t xid os) (.iapd id pfxs) =
        .ok (.msg t xid (pre ++ .iapd (copyInto 4 id) t1 t2 (sub ++ pfxs.map IAPfx.toOpt) :: post))) ∧
    (¬ CodeTyped ocIAPD Opt6.isIAPD os → applyMod (.msg t xid os) (.iapd id pfxs) = .panic) := by
  refine ⟨fun _ _ _ => rfl, ?_, ?_, ?_⟩
  · intro hty hn
    simp only [applyMod, oneIAPDOf_typed hty, hn, Msg6.updateOption]
    rw [update_of_getOne_none (o := .iapd _ _ _ _) hn]
  · intro pre id0 t1 t2 sub post hty he hpre
    have hg : getOne ocIAPD os = some (.iapd id0 t1 t2 sub) := he ▸ getOne_split hpre rfl
    simp only [applyMod, oneIAPDOf_typed hty, hg, Msg6.updateOption]
    rw [he, update_split (o := .iapd (copyInto 4 id) t1 t2 (sub ++ pfxs.map IAPfx.toOpt)) (x := .iapd id0 t1 t2 sub) hpre rfl]
  · intro hty
    simp only [applyMod, oneIAPDOf_untyped hty]

/-- on DECODED messages the three identity-association modifiers never panic
(the decoder parses codes 3, 4 and 25 into their own option types only) -/
theorem C16_mod_ia_decoded (b : Bytes) (m : Msg6) (h : dec6 b = .ok m) (id : Bytes)
    (addrs : List IAAddr) (pfxs : List IAPfx) :
    applyMod m (.ianaAddrs addrs) ≠ .panic ∧ applyMod m (.iata id addrs) ≠ .panic ∧
    applyMod m (.iapd id pfxs) ≠ .panic := by
  have hd := (decMsg_of_dec6 h).opts
  cases m with
  | relay t hc l p os => exact ⟨nofun, nofun, nofun⟩
  | msg t x os =>
    simp only [Msg6.opts] at hd
    -- the first option of the code, if any, has the code's own type: the `match` takes an `ok` arm
    refine ⟨?_, ?_, ?_⟩
    · simp only [applyMod, oneIANAOf_typed hd.ianaTyped]
      cases hg : getOne ocIANA os with
      | none => nofun
      | some o => obtain ⟨_, _, _, _, rfl, _⟩ := (hd.mem (getOne_mem hg)).iana_of_code (getOne_code hg); nofun
    · simp only [applyMod, oneIATAOf_typed hd.iataTyped]
      cases hg : getOne ocIATA os with
      | none => nofun
      | some o => obtain ⟨_, _, rfl⟩ := (hd.mem (getOne_mem hg)).iata_of_code (getOne_code hg); nofun
    · simp only [applyMod, oneIAPDOf_typed hd.iapdTyped]
      cases hg : getOne ocIAPD os with
      | none => nofun
      | some o => obtain ⟨_, _, _, _, rfl⟩ := (hd.mem (getOne_mem hg)).iapd_of_code (getOne_code hg); nofun

section Examples

def exInner : Msg6 := .msg mtSolicit [1, 2, 3] [.clientID (.ll 1 [0, 1, 2, 3, 4, 5]), .generic ocRapidCommit []]
def exReply : Msg6 := .msg mtReply [1, 2, 3] [.clientID (.ll 1 [0, 1, 2, 3, 4, 5])]
def ip (n : UInt8) : IP := some (List.replicate 15 0 ++ [n])

/-- `exL1` ⊃ `exL2` ⊃ `exL3`: a depth-3 relay-forward chain with six distinct addresses, two
interface-ids at level 2 only (after the relay message; only the first is echoed) and a
remote-id at the innermost level -/
def exL3 : Msg6 := .relay relayForward 0 (ip 5) (ip 6) [.remoteID 9 [7], .relayMsg exInner]
def exL2 : Msg6 := .relay relayForward 1 (ip 3) (ip 4) [.relayMsg exL3, .interfaceID [0xaa], .interfaceID [0xbb]]
def exL1 : Msg6 := .relay relayForward 2 (ip 1) (ip 2) [.relayMsg exL2]

def exLevels : List RLevel :=
  [⟨relayForward, 2, ip 1, ip 2, [.relayMsg exL2]⟩,
   ⟨relayForward, 1, ip 3, ip 4, [.relayMsg exL3, .interfaceID [0xaa], .interfaceID [0xbb]]⟩,
   ⟨relayForward, 0, ip 5, ip 6, [.remoteID 9 [7], .relayMsg exInner]⟩]

/-- the hypotheses of `C16_relay_reply` hold for it … -/
example : Chain exL1 exLevels exInner ∧ exL1.typ = relayForward ∧ exReply.isRelay = false :=
  ⟨.cons rfl (.cons rfl (.last rfl rfl)), rfl, rfl⟩

/-- … and the reply is the expected three-level relay-reply -/
example : newRelayReplFromRelayForw exL1 exReply =
    .ok (.relay relayReply 2 (ip 1) (ip 2)
      [.relayMsg (.relay relayReply 1 (ip 3) (ip 4)
        [.relayMsg (.relay relayReply 0 (ip 5) (ip 6) [.relayMsg exReply, .remoteID 9 [7]]),
         .interfaceID [0xaa]])]) := by
  rw [C16_relay_reply_exact exL1 exReply exInner exLevels (.cons rfl (.cons rfl (.last rfl rfl))) rfl rfl]
  rfl

/-- `C16_inner` on a 3-fold encapsulation of `exInner` built by `encapAll`, with mixed relay types -/
example : ∃ c, encapAll exInner [⟨relayForward, ip 1, ip 2⟩, ⟨relayReply, ip 3, ip 4⟩, ⟨relayForward, ip 5, ip 6⟩] = .ok c ∧
    getInnerMessage c = .ok exInner :=
  C16_inner exInner rfl _ _ (by decide)

example : getInnerMessage exL1 = .ok exInner :=
  C16_inner_chain _ _ exLevels (.cons rfl (.cons rfl (.last rfl rfl)))

/-- a chain with a level lacking the relay-message option is `Broken` -/
example : Broken (.relay relayForward 1 (ip 1) (ip 2) [.relayMsg (.relay relayForward 0 (ip 3) (ip 4) [.interfaceID [1]])]) :=
  .deeper rfl (.here rfl)

/-- builders: hypotheses satisfiable -/
example : newReplyFromMessage exInner [] = .ok (.msg mtReply [1, 2, 3] [.clientID (.ll 1 [0, 1, 2, 3, 4, 5]), .generic ocRapidCommit []]) :=
  (C16_reply mtSolicit _ _ _ rfl).2 rfl rfl

example : IANATyped [.clientID (.en 1 []), .serverID (.en 2 []), .iana [0, 0, 0, 1] 0 0 [], .iana [0, 0, 0, 2] 0 0 []] := by
  intro o ho hc
  simp at ho
  rcases ho with rfl | rfl | rfl | rfl <;> first | rfl | (simp [Opt6.code, ocIANA] at hc)

/-- modifiers: `WithIANA` on a message with two IA_NAs extends the first one in place;
`WithIATA` on a message without IA_TA appends a new one; `Del` drops both IA_NAs -/
def exTwoIANA : Msg6 := .msg mtAdvertise [1, 2, 3]
  [.clientID (.en 1 []), .iana [0, 0, 0, 1] 5 6 [.status 0 []], .elapsed 0, .iana [0, 0, 0, 2] 0 0 []]

example : applyMod exTwoIANA (.ianaAddrs [⟨ip 9, 1, 2, []⟩]) = .ok (.msg mtAdvertise [1, 2, 3]
    [.clientID (.en 1 []), .iana [0, 0, 0, 1] 5 6 [.status 0 [], .iaaddr (ip 9) 1 2 []], .elapsed 0,
     .iana [0, 0, 0, 2] 0 0 []]) := by
  refine (C16_mod_ianaAddrs _ _ _ _).2.2.1 [.clientID (.en 1 [])] _ _ _ _ _ ?_ rfl ?_
  · intro o ho hc
    simp at ho
    rcases ho with rfl | rfl | rfl | rfl <;> first | rfl | (simp [Opt6.code, ocIANA] at hc)
  · intro y hy; simp at hy; subst hy; decide

example : applyMod exTwoIANA (.iata [7, 7, 7, 7] [⟨ip 9, 1, 2, []⟩]) = .ok (.msg mtAdvertise [1, 2, 3]
    [.clientID (.en 1 []), .iana [0, 0, 0, 1] 5 6 [.status 0 []], .elapsed 0, .iana [0, 0, 0, 2] 0 0 [],
     .iata [7, 7, 7, 7] [.iaaddr (ip 9) 1 2 []]]) := by
  refine (C16_mod_iata _ _ _ _ _).2.1 ?_ rfl
  intro o ho hc
  simp at ho
  rcases ho with rfl | rfl | rfl | rfl <;> simp [Opt6.code, ocIATA] at hc

example : exTwoIANA.delOption ocIANA = .msg mtAdvertise [1, 2, 3] [.clientID (.en 1 []), .elapsed 0] := by
  simp [exTwoIANA, Msg6.delOption, del, Opt6.code, ocIANA]

example : applyMod (.msg mtSolicit [] [.generic ocIATA [1]]) (.iata [] []) = .panic := by
  refine (C16_mod_iata _ _ _ _ _).2.2.2 ?_
  intro h
  have := h (.generic ocIATA [1]) (by simp) rfl
  simp [Opt6.isIATA] at this

end Examples

end Dhcp.Props
