import DhcpProofs.Lemmas.V4MapOrder
import DhcpProofs.Lemmas.V4Parse
import DhcpProofs.Lemmas.V4RoundTrip
/-
  C07 — DHCPv4 encoding is deterministic, canonical and readable by any RFC
  decoder.  `enc4` models `(*DHCPv4).ToBytes`, `marshalOpts` models
  `Options.Marshal`, `Spec.Parses4` is the independent RFC reader.
-/
namespace Dhcp.Props
open Dhcp.V4 Dhcp.Spec

/-- codes in non-decreasing order, except that all instances of code 82 come last -/
def Sorted82Last (cs : List UInt8) : Prop :=
  ∃ (l : List UInt8) (k : Nat), cs = l ++ List.replicate k 82 ∧ l.Pairwise (· ≤ ·) ∧ 82 ∉ l

/-- **C07 (at least 300 bytes).** Whatever the packet, if `ToBytes` returns it
returns at least the BOOTP minimum. -/
theorem C07_len_ge_300 (p : Pkt4) (b : Bytes) (h : enc4 p = .ok b) : 300 ≤ b.length := by
  have hok : ipOK p.ciaddr ∧ ipOK p.yiaddr ∧ ipOK p.siaddr ∧ ipOK p.giaddr :=
    Decidable.not_not.mp (mt (enc4_panic_iff p).mpr (by simp [h]))
  obtain ⟨_, b', hb', hlen, _⟩ := enc4_ok p hok
  rw [h] at hb'
  exact Res.ok.inj hb' ▸ hlen

/-- **C07 (layout).** On the encodable domain the output is: 236-byte BOOTP
header, magic cookie, the options area, exactly one End option, then only
zero padding. -/
theorem C07_layout (p : Pkt4) (h : Encodable p) :
    ∃ (hdr : Bytes) (pad : Nat), hdr.length = 236 ∧
      enc4 p = .ok (hdr ++ (magicCookie ++ (marshalOpts p.opts ++ 255 :: zeros pad))) := by
  obtain ⟨pad, _, hpad, _, rfl⟩ := enc4_ok p ⟨h.ci, h.yi, h.si, h.gi⟩
  refine ⟨p.op :: UInt8.ofNat p.htype :: UInt8.ofNat p.hw.length :: p.hops ::
      (copyInto 4 p.xid ++ (be16 p.secs ++ (be16 p.flags ++ (ip4 p.ciaddr ++ (ip4 p.yiaddr ++
      (ip4 p.siaddr ++ (ip4 p.giaddr ++ (copyInto chaddrLen p.hw ++ (nameField snameCap p.sname ++
      nameField fileCap p.file))))))))), pad, ?_, ?_⟩
  · simp [copyInto_length, ip4_length _ h.ci, ip4_length _ h.yi, ip4_length _ h.si,
      ip4_length _ h.gi, nameField_length, chaddrLen, snameCap, fileCap]
  · rw [hpad]; simp [optEnd, List.append_assoc]

/-- **C07 (canonical options area).** The options area followed by End (and
anything) is a well-formed pad/TLV run; its instances are, in wire order,
`instsOf o`; every instance carries at most 255 value bytes; instance codes are
ascending with all instances of option 82 last; and no instance has code 0
or 255 (so there is exactly one End outside values). Any option map. -/
theorem C07_area (o : Opts) (tail : Bytes) :
    RunEnd (marshalOpts o ++ 255 :: tail) (instsOf o) ∧
    (∀ i ∈ instsOf o, i.2.length ≤ 255 ∧ i.1 ≠ 0 ∧ i.1 ≠ 255) ∧
    Sorted82Last ((instsOf o).map (·.1)) := by
  refine ⟨RunEnd_marshal o tail, fun i hi => have ⟨h0, h255, hl⟩ := instsOf_ok o i hi; ⟨hl, h0, h255⟩, ?_⟩
  obtain ⟨l, hl, hsorted, h82⟩ := marshalCodes_shape o
  -- the codes of the instances: each code of `marshalCodes o`, as often as its value has instances
  have hcodes : ∀ c v, (chunkInsts c v).map (·.1) = List.replicate (chunkInsts c v).length c :=
    fun c v => List.eq_replicate_iff.mpr ⟨List.length_map _, fun b hb => by
      obtain ⟨i, hi, rfl⟩ := List.mem_map.mp hb
      exact (chunkInsts_code c v i hi).1⟩
  refine ⟨l.flatMap (fun c => List.replicate (chunkInsts c ((o.f c).getD [])).length c),
    if o.has 82 then (chunkInsts 82 ((o.f 82).getD [])).length else 0, ?_, ?_, ?_⟩
  · rw [instsOf, List.map_flatMap, hl, List.flatMap_append]
    simp only [hcodes]
    congr 1
    by_cases h : o.has 82 = true <;> simp [h]
  · rw [List.pairwise_flatMap]
    refine ⟨fun a _ => by simp [List.pairwise_replicate], ?_⟩
    refine List.Pairwise.imp ?_ hsorted
    intro a b hab x hx y hy
    rw [(List.mem_replicate.mp hx).2, (List.mem_replicate.mp hy).2]
    exact UInt8.le_of_lt hab
  · intro hm
    obtain ⟨c, hc, hx⟩ := List.mem_flatMap.mp hm
    rw [(List.mem_replicate.mp hx).2] at h82
    exact h82 hc

/-- **C07 (readable by an independent RFC decoder).** The declarative RFC
grammar recovers exactly the packet's fields and option values from the
encoder's bytes. -/
theorem C07_parses (p : Pkt4) (h : Encodable p) :
    ∃ b, enc4 p = .ok b ∧ Parses4 b (norm p) := by
  obtain ⟨b, h1, h2⟩ := enc4_dec4 p h
  exact ⟨b, h1, dec4_sound b _ h2⟩

/-- option-map edits: the operations by which callers build a packet -/
inductive OptOp where
  | update (c : UInt8) (v : Bytes)
  | delete (c : UInt8)

def applyOp (o : Opts) : OptOp → Opts
  | .update c v => o.set c v
  | .delete c => o.del c

def applyOps (o : Opts) (ops : List OptOp) : Opts := ops.foldl applyOp o

/-- **C07 (order independence).** Two histories of option updates and
deletions — any lengths, any orders — that leave the same contents give
identical bytes. In the model this is extensionality of the option map (the
map has no iteration order); that the Go code does not depend on map
iteration order is what the `v4enc` correspondence stream observes (each
packet is encoded repeatedly, Go randomises iteration per `range`). -/
theorem C07_order_independent (p : Pkt4) (ops₁ ops₂ : List OptOp)
    (h : ∀ c, (applyOps p.opts ops₁).f c = (applyOps p.opts ops₂).f c) :
    enc4 { p with opts := applyOps p.opts ops₁ } = enc4 { p with opts := applyOps p.opts ops₂ } := by
  have : applyOps p.opts ops₁ = applyOps p.opts ops₂ := Opts.ext' h
  rw [this]

/-- a permutation of updates to distinct codes is one such pair of histories -/
theorem C07_swap_updates (o : Opts) (c d : UInt8) (v w : Bytes) (hcd : c ≠ d) :
    ∀ k, (applyOps o [.update c v, .update d w]).f k = (applyOps o [.update d w, .update c v]).f k := by
  intro k
  simp only [applyOps, List.foldl_cons, List.foldl_nil, applyOp, Opts.set]
  by_cases hk : k = c <;> by_cases hk' : k = d <;> simp_all

/-! ### the order in which Go's runtime yields the map's keys

`Options` is a Go map: `for k := range o` in `sortedKeys` yields the keys in an
order that is unspecified and differs from run to run.  `enc4From it p` is
`ToBytes` executed when that loop yields the keys in the order `it`.  The
theorems quantify over EVERY such order (every permutation of the key set), so
"the bytes do not depend on the order in which the options were added" is a
statement about the algorithm the code runs — collect, sort, append 82 and 255 —
and not only about the model's order-free map.  That `sortedKeys` has that
shape (one `range`, the codes 82 and 255 skipped, a sort call between the loop
and the appends of 82 and 255 in that order; `Marshal` ranges over
`o.sortedKeys()` only) is re-read from the source on every run:
`fact_sortedKeys_shape` (DhcpProofs/Facts/V4Codec.lean). -/

/-- `(*DHCPv4).ToBytes` when `range o` yields the option codes in the order `it` -/
def enc4From (it : List UInt8) (p : Pkt4) : Res Bytes := do
  let ci ← writeIP p.ciaddr
  let yi ← writeIP p.yiaddr
  let si ← writeIP p.siaddr
  let gi ← writeIP p.giaddr
  let body : Bytes :=
    [p.op, UInt8.ofNat p.htype, UInt8.ofNat p.hw.length, p.hops] ++ copyInto 4 p.xid
      ++ be16 p.secs ++ be16 p.flags ++ ci ++ yi ++ si ++ gi
      ++ copyInto chaddrLen p.hw
      ++ nameField snameCap p.sname
      ++ nameField fileCap p.file
      ++ magicCookie ++ marshalOptsFrom it p.opts ++ [optEnd]
  pure (body ++ zeros (bootpMinLen - body.length))

/-- **C07 (map iteration order).** For every packet — in the encodable domain or
not — and every order `it` in which the runtime may yield the keys of the
option map, the encoder produces the bytes of `enc4`: the output is a function
of the option set's CONTENTS alone. -/
theorem C07_map_order_irrelevant (p : Pkt4) (it : List UInt8) (h : it.Perm p.opts.keys) :
    enc4From it p = enc4 p := by
  unfold enc4From enc4
  rw [marshalOptsFrom_eq p.opts it h]

/-- two runs of the encoder on packets with the same contents, each under its own
iteration order, give identical bytes -/
theorem C07_map_order_pair (p : Pkt4) (it₁ it₂ : List UInt8)
    (h₁ : it₁.Perm p.opts.keys) (h₂ : it₂.Perm p.opts.keys) :
    enc4From it₁ p = enc4From it₂ p := by
  rw [C07_map_order_irrelevant p it₁ h₁, C07_map_order_irrelevant p it₂ h₂]

/-- the same through two different build histories: any two edit histories that
leave the same contents, encoded under any two iteration orders -/
theorem C07_order_independent_any_iteration (p : Pkt4) (ops₁ ops₂ : List OptOp) (it₁ it₂ : List UInt8)
    (h : ∀ c, (applyOps p.opts ops₁).f c = (applyOps p.opts ops₂).f c)
    (h₁ : it₁.Perm (applyOps p.opts ops₁).keys) (h₂ : it₂.Perm (applyOps p.opts ops₂).keys) :
    enc4From it₁ { p with opts := applyOps p.opts ops₁ } =
      enc4From it₂ { p with opts := applyOps p.opts ops₂ } := by
  rw [C07_map_order_irrelevant _ it₁ h₁, C07_map_order_irrelevant _ it₂ h₂]
  exact C07_order_independent p ops₁ ops₂ h

/-- what the sort contributes: WITHOUT it the output would follow the iteration
order (two orders of the keys {1, 3} give different code sequences), so the
statement above is not true of "collect and append" alone -/
theorem C07_sort_needed :
    ([3, 1] : List UInt8).Perm [1, 3] ∧ ([3, 1] : List UInt8) ≠ [1, 3] ∧
    sortedKeysFrom [3, 1] = [1, 3] ∧ sortedKeysFrom [1, 3] = [1, 3] := by
  refine ⟨List.Perm.swap 1 3 [], by decide, by decide, by decide⟩

/-- `sort.Ints` enters only through its specification: any function that returns
an ascending permutation of the collected codes yields the same key list -/
theorem C07_any_sort (l r : List UInt8) (hr : Asc r) (hp : r.Perm l) : r = sortCodes l :=
  sortCodes_unique l r hr hp

/-- Non-vacuity: the keys {82, 5, 255, 3, 200, 1} yielded in that scrambled order
come out as 1, 3, 5, 200, then 82, then 255 -/
example : sortedKeysFrom [82, 5, 255, 3, 200, 1] = [1, 3, 5, 200, 82, 255] := by decide

set_option maxRecDepth 4000 in
/-- Non-vacuity: a 300-byte value is written as two instances of 255 and 45
bytes, and the code sequence 1, 3, 43, 43, 82 is `Sorted82Last`. -/
example : (chunkInsts 43 (zeros 300)).map (fun i => (i.1, i.2.length)) = [(43, 255), (43, 45)] := by
  decide

example : Sorted82Last [1, 3, 43, 43, 82] := ⟨[1, 3, 43, 43], 1, rfl, by decide, by decide⟩

end Dhcp.Props
