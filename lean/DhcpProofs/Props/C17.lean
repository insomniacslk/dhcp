import DhcpProofs.Lemmas.V4ValLabel
import DhcpProofs.Lemmas.V4ValDecoded
/-
  C17 — DHCPv4 typed accessors agree with the raw option bytes.

  `o : GOpts` is the packet's `Options` map (the accessors read nothing else
  of the packet); `o.get c` is `Options.Get(c)`: `none` when the key is
  missing or holds a nil slice ("absent"), `some v` when it holds the raw
  value `v` (of ANY length: no bound anywhere below).  `Val4.*` are the RFC
  interpretations of Dhcp/Spec/Val4.lean.  For each accessor `A`:
    C17_A_wf      spec accepts v with x        → A returns x
    C17_A_bad     spec rejects v               → A returns its documented default
    C17_A_absent  no value                     → A returns its documented default
    C17_set_get_A constructor then A returns the value, on the stated domain
  DomainSearch is stated against C19's relational spec (`Val4.searchList`).
  (`_bad` is omitted where the spec is total: strings and code lists.  For
  RelayAgentInfo `_wf`/`_bad` are `def …_full` + `_partial` + `_counterexample`:
  known finding acc-RelayAgentInfo-pad-end.)
-/
namespace Dhcp.V4
open Dhcp.Spec


/-! ## single addresses (RFC 2132 §5.3, §9.1, §9.7): exactly 4 octets, else nil -/

theorem C17_BroadcastAddress_wf (o : GOpts) (v x : Bytes) (h : o.get Code.broadcastAddress = some v)
    (hs : Val4.ip v = some x) : Acc.broadcastAddress o = some x := (getIP_reads _).wf h hs
theorem C17_BroadcastAddress_bad (o : GOpts) (v : Bytes) (h : o.get Code.broadcastAddress = some v)
    (hs : Val4.ip v = none) : Acc.broadcastAddress o = none := (getIP_reads _).bad h hs
theorem C17_BroadcastAddress_absent (o : GOpts) (h : o.get Code.broadcastAddress = none) :
    Acc.broadcastAddress o = none := (getIP_reads _).absent h
/-- `OptBroadcastAddress(ip)` for an address with a 4-byte form (`To4() != nil`) reads back as that form. -/
theorem C17_set_get_BroadcastAddress (o : GOpts) (b x : Bytes) (hd : to4 b = some x) :
    Acc.broadcastAddress (o.update Code.broadcastAddress (ipToBytes (some b))) = some x :=
  getIP_set_get _ o b x hd

theorem C17_RequestedIPAddress_wf (o : GOpts) (v x : Bytes) (h : o.get Code.requestedIPAddress = some v)
    (hs : Val4.ip v = some x) : Acc.requestedIPAddress o = some x := (getIP_reads _).wf h hs
theorem C17_RequestedIPAddress_bad (o : GOpts) (v : Bytes) (h : o.get Code.requestedIPAddress = some v)
    (hs : Val4.ip v = none) : Acc.requestedIPAddress o = none := (getIP_reads _).bad h hs
theorem C17_RequestedIPAddress_absent (o : GOpts) (h : o.get Code.requestedIPAddress = none) :
    Acc.requestedIPAddress o = none := (getIP_reads _).absent h
/-- `OptRequestedIPAddress(ip)` for an address with a 4-byte form (`To4() != nil`) reads back as that form. -/
theorem C17_set_get_RequestedIPAddress (o : GOpts) (b x : Bytes) (hd : to4 b = some x) :
    Acc.requestedIPAddress (o.update Code.requestedIPAddress (ipToBytes (some b))) = some x :=
  getIP_set_get _ o b x hd

theorem C17_ServerIdentifier_wf (o : GOpts) (v x : Bytes) (h : o.get Code.serverIdentifier = some v)
    (hs : Val4.ip v = some x) : Acc.serverIdentifier o = some x := (getIP_reads _).wf h hs
theorem C17_ServerIdentifier_bad (o : GOpts) (v : Bytes) (h : o.get Code.serverIdentifier = some v)
    (hs : Val4.ip v = none) : Acc.serverIdentifier o = none := (getIP_reads _).bad h hs
theorem C17_ServerIdentifier_absent (o : GOpts) (h : o.get Code.serverIdentifier = none) :
    Acc.serverIdentifier o = none := (getIP_reads _).absent h
/-- `OptServerIdentifier(ip)` for an address with a 4-byte form (`To4() != nil`) reads back as that form. -/
theorem C17_set_get_ServerIdentifier (o : GOpts) (b x : Bytes) (hd : to4 b = some x) :
    Acc.serverIdentifier (o.update Code.serverIdentifier (ipToBytes (some b))) = some x :=
  getIP_set_get _ o b x hd

example : Val4.ip [192, 168, 0, 1] = some [192, 168, 0, 1] ∧ Val4.ip [192, 168, 0, 1, 5] = none ∧
    Val4.ip [192, 168, 0] = none := by decide
example : Acc.requestedIPAddress (GOpts.empty.update 50 (some [10, 0, 0, 1, 5])) = none := by decide


/-! ## address lists (RFC 2132 §3.5, §3.8, §8.3, §8.5): a positive multiple of 4 octets, else nil -/

theorem C17_Router_wf (o : GOpts) (v : Bytes) (xs : List Bytes) (h : o.get Code.router = some v)
    (hs : Val4.ips v = some xs) : Acc.router o = some (xs.map some) := (getIPs_reads _).wf h hs
theorem C17_Router_bad (o : GOpts) (v : Bytes) (h : o.get Code.router = some v)
    (hs : Val4.ips v = none) : Acc.router o = none := (getIPs_reads _).bad h hs
theorem C17_Router_absent (o : GOpts) (h : o.get Code.router = none) :
    Acc.router o = none := (getIPs_reads _).absent h
/-- `OptRouter(ips...)` for a non-empty list of addresses that all have a 4-byte form. -/
theorem C17_set_get_Router (o : GOpts) (bs : List Bytes) (hne : bs ≠ [])
    (hd : ∀ b ∈ bs, (to4 b).isSome) :
    Acc.router (o.update Code.router (ipsToBytes (bs.map some))) = some (bs.map to4) :=
  getIPs_set_get _ o bs hne hd

theorem C17_NTPServers_wf (o : GOpts) (v : Bytes) (xs : List Bytes) (h : o.get Code.ntpServers = some v)
    (hs : Val4.ips v = some xs) : Acc.ntpServers o = some (xs.map some) := (getIPs_reads _).wf h hs
theorem C17_NTPServers_bad (o : GOpts) (v : Bytes) (h : o.get Code.ntpServers = some v)
    (hs : Val4.ips v = none) : Acc.ntpServers o = none := (getIPs_reads _).bad h hs
theorem C17_NTPServers_absent (o : GOpts) (h : o.get Code.ntpServers = none) :
    Acc.ntpServers o = none := (getIPs_reads _).absent h
/-- `OptNTPServers(ips...)` for a non-empty list of addresses that all have a 4-byte form. -/
theorem C17_set_get_NTPServers (o : GOpts) (bs : List Bytes) (hne : bs ≠ [])
    (hd : ∀ b ∈ bs, (to4 b).isSome) :
    Acc.ntpServers (o.update Code.ntpServers (ipsToBytes (bs.map some))) = some (bs.map to4) :=
  getIPs_set_get _ o bs hne hd

theorem C17_NetBIOSNameServers_wf (o : GOpts) (v : Bytes) (xs : List Bytes) (h : o.get Code.netBIOSNameServers = some v)
    (hs : Val4.ips v = some xs) : Acc.netBIOSNameServers o = some (xs.map some) := (getIPs_reads _).wf h hs
theorem C17_NetBIOSNameServers_bad (o : GOpts) (v : Bytes) (h : o.get Code.netBIOSNameServers = some v)
    (hs : Val4.ips v = none) : Acc.netBIOSNameServers o = none := (getIPs_reads _).bad h hs
theorem C17_NetBIOSNameServers_absent (o : GOpts) (h : o.get Code.netBIOSNameServers = none) :
    Acc.netBIOSNameServers o = none := (getIPs_reads _).absent h
/-- `OptNetBIOSNameServers(ips...)` for a non-empty list of addresses that all have a 4-byte form. -/
theorem C17_set_get_NetBIOSNameServers (o : GOpts) (bs : List Bytes) (hne : bs ≠ [])
    (hd : ∀ b ∈ bs, (to4 b).isSome) :
    Acc.netBIOSNameServers (o.update Code.netBIOSNameServers (ipsToBytes (bs.map some))) = some (bs.map to4) :=
  getIPs_set_get _ o bs hne hd

theorem C17_DNS_wf (o : GOpts) (v : Bytes) (xs : List Bytes) (h : o.get Code.dns = some v)
    (hs : Val4.ips v = some xs) : Acc.dns o = some (xs.map some) := (getIPs_reads _).wf h hs
theorem C17_DNS_bad (o : GOpts) (v : Bytes) (h : o.get Code.dns = some v)
    (hs : Val4.ips v = none) : Acc.dns o = none := (getIPs_reads _).bad h hs
theorem C17_DNS_absent (o : GOpts) (h : o.get Code.dns = none) :
    Acc.dns o = none := (getIPs_reads _).absent h
/-- `OptDNS(ips...)` for a non-empty list of addresses that all have a 4-byte form. -/
theorem C17_set_get_DNS (o : GOpts) (bs : List Bytes) (hne : bs ≠ [])
    (hd : ∀ b ∈ bs, (to4 b).isSome) :
    Acc.dns (o.update Code.dns (ipsToBytes (bs.map some))) = some (bs.map to4) :=
  getIPs_set_get _ o bs hne hd

example : Val4.ips [10, 0, 0, 1, 10, 0, 0, 2] = some [[10, 0, 0, 1], [10, 0, 0, 2]] ∧
    Val4.ips [10, 0, 0, 1, 10, 0, 0] = none ∧ Val4.ips [] = none := by decide
example : Acc.dns (GOpts.empty.update 6 (some [8, 8, 8, 8, 8, 8, 4])) = none := by decide


/-! ## vendor class identifier (RFC 2132 §9.13): opaque octets, returned exactly
as sent (trailing NULs included: option 60 is not NVT ASCII); absent reads as "" -/

theorem C17_ClassIdentifier_wf (o : GOpts) (v x : Bytes) (h : o.get Code.classIdentifier = some v)
    (hs : Val4.str v = some x) : Acc.classIdentifier o = x := (getString_reads _).wf h hs
theorem C17_ClassIdentifier_absent (o : GOpts) (h : o.get Code.classIdentifier = none) :
    Acc.classIdentifier o = [] := (getString_reads _).absent h
theorem C17_set_get_ClassIdentifier (o : GOpts) (s : Bytes) :
    Acc.classIdentifier (o.update Code.classIdentifier (stringToBytes s)) = s := getString_set_get _ o s
/-- precisely: `ClassIdentifier()` is the raw value, whatever its octets -/
theorem C17_ClassIdentifier_raw (o : GOpts) (v : Bytes) (h : o.get Code.classIdentifier = some v) :
    Acc.classIdentifier o = v := (getString_reads _).wf h rfl

example : Val4.str [80, 88, 69, 0, 0] = some [80, 88, 69, 0, 0] := rfl
example : Acc.classIdentifier (GOpts.empty.update 60 (some [80, 88, 69, 0])) = [80, 88, 69, 0] := by decide

/-! ## NVT-ASCII strings (RFC 2132 §2: trailing NULs are deleted by the receiver):
host name 12, domain name 15, root path 17, message 56, TFTP server name 66,
boot file name 67; absent reads as "" -/

theorem C17_DomainName_wf (o : GOpts) (v x : Bytes) (h : o.get Code.domainName = some v)
    (hs : Val4.strTrim v = some x) : Acc.domainName o = x := (getStringTrim_reads _).wf h hs
theorem C17_DomainName_absent (o : GOpts) (h : o.get Code.domainName = none) :
    Acc.domainName o = [] := (getStringTrim_reads _).absent h
/-- `OptDomainName(s)` for a string that does not end in NUL. -/
theorem C17_set_get_DomainName (o : GOpts) (s : Bytes) (hd : s.getLast? ≠ some 0) :
    Acc.domainName (o.update Code.domainName (stringToBytes s)) = s := getStringTrim_set_get _ o s hd

theorem C17_RootPath_wf (o : GOpts) (v x : Bytes) (h : o.get Code.rootPath = some v)
    (hs : Val4.strTrim v = some x) : Acc.rootPath o = x := (getStringTrim_reads _).wf h hs
theorem C17_RootPath_absent (o : GOpts) (h : o.get Code.rootPath = none) :
    Acc.rootPath o = [] := (getStringTrim_reads _).absent h
/-- `OptRootPath(s)` for a string that does not end in NUL. -/
theorem C17_set_get_RootPath (o : GOpts) (s : Bytes) (hd : s.getLast? ≠ some 0) :
    Acc.rootPath (o.update Code.rootPath (stringToBytes s)) = s := getStringTrim_set_get _ o s hd

theorem C17_Message_wf (o : GOpts) (v x : Bytes) (h : o.get Code.message = some v)
    (hs : Val4.strTrim v = some x) : Acc.message o = x := (getStringTrim_reads _).wf h hs
theorem C17_Message_absent (o : GOpts) (h : o.get Code.message = none) :
    Acc.message o = [] := (getStringTrim_reads _).absent h
/-- `OptMessage(s)` for a string that does not end in NUL. -/
theorem C17_set_get_Message (o : GOpts) (s : Bytes) (hd : s.getLast? ≠ some 0) :
    Acc.message (o.update Code.message (stringToBytes s)) = s := getStringTrim_set_get _ o s hd

theorem C17_HostName_wf (o : GOpts) (v x : Bytes) (h : o.get Code.hostName = some v)
    (hs : Val4.strTrim v = some x) : Acc.hostName o = x := (getStringTrim_reads _).wf h hs
theorem C17_HostName_absent (o : GOpts) (h : o.get Code.hostName = none) :
    Acc.hostName o = [] := (getStringTrim_reads _).absent h
/-- `OptHostName(s)` for a string that does not end in NUL. -/
theorem C17_set_get_HostName (o : GOpts) (s : Bytes) (hd : s.getLast? ≠ some 0) :
    Acc.hostName (o.update Code.hostName (stringToBytes s)) = s := getStringTrim_set_get _ o s hd

theorem C17_BootFileNameOption_wf (o : GOpts) (v x : Bytes) (h : o.get Code.bootfileName = some v)
    (hs : Val4.strTrim v = some x) : Acc.bootFileNameOption o = x := (getStringTrim_reads _).wf h hs
theorem C17_BootFileNameOption_absent (o : GOpts) (h : o.get Code.bootfileName = none) :
    Acc.bootFileNameOption o = [] := (getStringTrim_reads _).absent h
/-- `OptBootFileName(s)` for a string that does not end in NUL. -/
theorem C17_set_get_BootFileNameOption (o : GOpts) (s : Bytes) (hd : s.getLast? ≠ some 0) :
    Acc.bootFileNameOption (o.update Code.bootfileName (stringToBytes s)) = s := getStringTrim_set_get _ o s hd

theorem C17_TFTPServerName_wf (o : GOpts) (v x : Bytes) (h : o.get Code.tftpServerName = some v)
    (hs : Val4.strTrim v = some x) : Acc.tftpServerName o = x := (getStringTrim_reads _).wf h hs
theorem C17_TFTPServerName_absent (o : GOpts) (h : o.get Code.tftpServerName = none) :
    Acc.tftpServerName o = [] := (getStringTrim_reads _).absent h
/-- `OptTFTPServerName(s)` for a string that does not end in NUL. -/
theorem C17_set_get_TFTPServerName (o : GOpts) (s : Bytes) (hd : s.getLast? ≠ some 0) :
    Acc.tftpServerName (o.update Code.tftpServerName (stringToBytes s)) = s := getStringTrim_set_get _ o s hd

example : Val4.strTrim [104, 0, 105, 0, 0] = some [104, 0, 105] ∧ Val4.strTrim [0, 0] = some [] := by decide
example : Acc.hostName (GOpts.empty.update 12 (some [104, 105, 0, 0])) = [104, 105] := by decide
/-- the input of the defect fixed in 6070b0d (option 15 = 'a' 00) reads "a" -/
example : Acc.domainName (GOpts.empty.update 15 (some [97, 0])) = [97] := by decide

/-! ## durations (RFC 2132 §9.2, §9.11, §9.12): exactly 4 octets of seconds, else the caller's default -/

theorem C17_IPAddressLeaseTime_wf (o : GOpts) (v : Bytes) (x dflt : Int) (h : o.get Code.ipAddressLeaseTime = some v)
    (hs : Val4.seconds v = some x) : Acc.ipAddressLeaseTime o dflt = x := (getDuration_reads _ dflt).wf h hs
theorem C17_IPAddressLeaseTime_bad (o : GOpts) (v : Bytes) (dflt : Int) (h : o.get Code.ipAddressLeaseTime = some v)
    (hs : Val4.seconds v = none) : Acc.ipAddressLeaseTime o dflt = dflt := (getDuration_reads _ dflt).bad h hs
theorem C17_IPAddressLeaseTime_absent (o : GOpts) (dflt : Int) (h : o.get Code.ipAddressLeaseTime = none) :
    Acc.ipAddressLeaseTime o dflt = dflt := (getDuration_reads _ dflt).absent h
/-- `OptIPAddressLeaseTime(d)` for a whole number of seconds below 2^32. -/
theorem C17_set_get_IPAddressLeaseTime (o : GOpts) (s : Nat) (dflt : Int) (hd : s < 4294967296) :
    Acc.ipAddressLeaseTime (o.update Code.ipAddressLeaseTime (durationToBytes ((s : Int) * second))) dflt = (s : Int) * second :=
  getDuration_set_get _ o s dflt hd

theorem C17_IPAddressRenewalTime_wf (o : GOpts) (v : Bytes) (x dflt : Int) (h : o.get Code.renewalTime = some v)
    (hs : Val4.seconds v = some x) : Acc.ipAddressRenewalTime o dflt = x := (getDuration_reads _ dflt).wf h hs
theorem C17_IPAddressRenewalTime_bad (o : GOpts) (v : Bytes) (dflt : Int) (h : o.get Code.renewalTime = some v)
    (hs : Val4.seconds v = none) : Acc.ipAddressRenewalTime o dflt = dflt := (getDuration_reads _ dflt).bad h hs
theorem C17_IPAddressRenewalTime_absent (o : GOpts) (dflt : Int) (h : o.get Code.renewalTime = none) :
    Acc.ipAddressRenewalTime o dflt = dflt := (getDuration_reads _ dflt).absent h
/-- `OptRenewTimeValue(d)` for a whole number of seconds below 2^32. -/
theorem C17_set_get_IPAddressRenewalTime (o : GOpts) (s : Nat) (dflt : Int) (hd : s < 4294967296) :
    Acc.ipAddressRenewalTime (o.update Code.renewalTime (durationToBytes ((s : Int) * second))) dflt = (s : Int) * second :=
  getDuration_set_get _ o s dflt hd

theorem C17_IPAddressRebindingTime_wf (o : GOpts) (v : Bytes) (x dflt : Int) (h : o.get Code.rebindingTime = some v)
    (hs : Val4.seconds v = some x) : Acc.ipAddressRebindingTime o dflt = x := (getDuration_reads _ dflt).wf h hs
theorem C17_IPAddressRebindingTime_bad (o : GOpts) (v : Bytes) (dflt : Int) (h : o.get Code.rebindingTime = some v)
    (hs : Val4.seconds v = none) : Acc.ipAddressRebindingTime o dflt = dflt := (getDuration_reads _ dflt).bad h hs
theorem C17_IPAddressRebindingTime_absent (o : GOpts) (dflt : Int) (h : o.get Code.rebindingTime = none) :
    Acc.ipAddressRebindingTime o dflt = dflt := (getDuration_reads _ dflt).absent h
/-- `OptRebindingTimeValue(d)` for a whole number of seconds below 2^32. -/
theorem C17_set_get_IPAddressRebindingTime (o : GOpts) (s : Nat) (dflt : Int) (hd : s < 4294967296) :
    Acc.ipAddressRebindingTime (o.update Code.rebindingTime (durationToBytes ((s : Int) * second))) dflt = (s : Int) * second :=
  getDuration_set_get _ o s dflt hd

example : Val4.seconds [0, 0, 14, 16] = some 3600000000000 ∧ Val4.seconds [0, 14, 16] = none ∧
    Val4.seconds [0, 0, 0, 14, 16] = none := by decide
example : Acc.ipAddressLeaseTime (GOpts.empty.update 51 (some [0, 14, 16])) 77 = 77 := by decide

/-! ## IPv6-only preferred (RFC 8925 §3.1): exactly 4 octets of seconds; `(0, false)` otherwise -/

theorem C17_IPv6OnlyPreferred_wf (o : GOpts) (v : Bytes) (x : Int)
    (h : o.get Code.ipv6OnlyPreferred = some v) (hs : Val4.seconds v = some x) :
    Acc.ipv6OnlyPreferred o = (x, true) := Acc.ipv6OnlyPreferred_reads.wf h hs
theorem C17_IPv6OnlyPreferred_bad (o : GOpts) (v : Bytes)
    (h : o.get Code.ipv6OnlyPreferred = some v) (hs : Val4.seconds v = none) :
    Acc.ipv6OnlyPreferred o = (0, false) := Acc.ipv6OnlyPreferred_reads.bad h hs
theorem C17_IPv6OnlyPreferred_absent (o : GOpts) (h : o.get Code.ipv6OnlyPreferred = none) :
    Acc.ipv6OnlyPreferred o = (0, false) := Acc.ipv6OnlyPreferred_reads.absent h
/-- `OptIPv6OnlyPreferred(d)` for a whole number of seconds below 2^32. -/
theorem C17_set_get_IPv6OnlyPreferred (o : GOpts) (s : Nat) (hd : s < 4294967296) :
    Acc.ipv6OnlyPreferred (o.update Code.ipv6OnlyPreferred (durationToBytes ((s : Int) * second))) =
      ((s : Int) * second, true) := by
  rw [durationToBytes_dom hd]; exact Acc.ipv6OnlyPreferred_reads.set_get (seconds_enc hd)

/-! ## maximum message size (RFC 2132 §9.10): exactly 2 octets; `(0, error)` otherwise -/

theorem C17_MaxMessageSize_wf (o : GOpts) (v : Bytes) (x : Nat)
    (h : o.get Code.maxMessageSize = some v) (hs : Val4.u16 v = some x) :
    Acc.maxMessageSize o = .ok x := (getUint16_reads _).wf h hs
theorem C17_MaxMessageSize_bad (o : GOpts) (v : Bytes)
    (h : o.get Code.maxMessageSize = some v) (hs : Val4.u16 v = none) :
    Acc.maxMessageSize o = .err := (getUint16_reads _).bad h hs
theorem C17_MaxMessageSize_absent (o : GOpts) (h : o.get Code.maxMessageSize = none) :
    Acc.maxMessageSize o = .err := (getUint16_reads _).absent h
theorem C17_set_get_MaxMessageSize (o : GOpts) (n : Nat) (hd : n < 65536) :
    Acc.maxMessageSize (o.update Code.maxMessageSize (uint16ToBytes n)) = .ok n :=
  (getUint16_reads _).set_get (u16_be16 hd)

example : Val4.u16 [5, 220] = some 1500 ∧ Val4.u16 [5] = none ∧ Val4.u16 [5, 220, 0] = none := by decide

/-! ## single octets: auto-configure (RFC 2563 §2) and message type (RFC 2132 §9.6) -/

theorem C17_AutoConfigure_wf (o : GOpts) (v : Bytes) (x : UInt8)
    (h : o.get Code.autoConfigure = some v) (hs : Val4.u8 v = some x) :
    Acc.autoConfigure o = (x, true) := Acc.autoConfigure_reads.wf h hs
theorem C17_AutoConfigure_bad (o : GOpts) (v : Bytes)
    (h : o.get Code.autoConfigure = some v) (hs : Val4.u8 v = none) :
    Acc.autoConfigure o = (0, false) := Acc.autoConfigure_reads.bad h hs
theorem C17_AutoConfigure_absent (o : GOpts) (h : o.get Code.autoConfigure = none) :
    Acc.autoConfigure o = (0, false) := Acc.autoConfigure_reads.absent h
theorem C17_set_get_AutoConfigure (o : GOpts) (b : UInt8) :
    Acc.autoConfigure (o.update Code.autoConfigure (some [b])) = (b, true) :=
  Acc.autoConfigure_reads.set_get rfl

theorem C17_MessageType_wf (o : GOpts) (v : Bytes) (x : UInt8)
    (h : o.get Code.messageType = some v) (hs : Val4.u8 v = some x) :
    Acc.messageType o = x := Acc.messageType_reads.wf h hs
/-- malformed → `MessageTypeNone` (= 0) -/
theorem C17_MessageType_bad (o : GOpts) (v : Bytes)
    (h : o.get Code.messageType = some v) (hs : Val4.u8 v = none) :
    Acc.messageType o = 0 := Acc.messageType_reads.bad h hs
theorem C17_MessageType_absent (o : GOpts) (h : o.get Code.messageType = none) :
    Acc.messageType o = 0 := Acc.messageType_reads.absent h
theorem C17_set_get_MessageType (o : GOpts) (b : UInt8) :
    Acc.messageType (o.update Code.messageType (some [b])) = b :=
  Acc.messageType_reads.set_get rfl

example : Val4.u8 [5] = some 5 ∧ Val4.u8 [] = none ∧ Val4.u8 [5, 1] = none := by decide

/-! ## subnet mask (RFC 2132 §3.3): exactly 4 octets, else nil -/

theorem C17_SubnetMask_wf (o : GOpts) (v x : Bytes)
    (h : o.get Code.subnetMask = some v) (hs : Val4.mask v = some x) :
    Acc.subnetMask o = some x := Acc.subnetMask_reads.wf h hs
theorem C17_SubnetMask_bad (o : GOpts) (v : Bytes)
    (h : o.get Code.subnetMask = some v) (hs : Val4.mask v = none) :
    Acc.subnetMask o = none := Acc.subnetMask_reads.bad h hs
theorem C17_SubnetMask_absent (o : GOpts) (h : o.get Code.subnetMask = none) :
    Acc.subnetMask o = none := Acc.subnetMask_reads.absent h
/-- `OptSubnetMask(m)` for a 4-byte mask. -/
theorem C17_set_get_SubnetMask (o : GOpts) (m : Bytes) (hd : m.length = 4) :
    Acc.subnetMask (o.update Code.subnetMask (maskToBytes (some m))) = some m := by
  rw [show maskToBytes (some m) = some m by simp [maskToBytes, hd]]
  exact Acc.subnetMask_reads.set_get (mask_len4 hd)

example : Val4.mask [255, 255, 255, 0] = some [255, 255, 255, 0] ∧ Val4.mask [255, 255, 255] = none := by decide

/-! ## classless static routes (RFC 3442): descriptors tiling the value, width ≤ 32, else nil -/

theorem C17_ClasslessStaticRoute_wf (o : GOpts) (v : Bytes) (xs : List Val4.Route)
    (h : o.get Code.classlessStaticRoute = some v) (hs : Val4.routes v = some xs) :
    Acc.classlessStaticRoute o = some (xs.map ofSpecRoute) := Acc.classlessStaticRoute_reads.wf h hs
theorem C17_ClasslessStaticRoute_bad (o : GOpts) (v : Bytes)
    (h : o.get Code.classlessStaticRoute = some v) (hs : Val4.routes v = none) :
    Acc.classlessStaticRoute o = none := Acc.classlessStaticRoute_reads.bad h hs
theorem C17_ClasslessStaticRoute_absent (o : GOpts) (h : o.get Code.classlessStaticRoute = none) :
    Acc.classlessStaticRoute o = none := Acc.classlessStaticRoute_reads.absent h
/-- `OptClasslessStaticRoute(routes...)` for a non-empty list of routes of the
domain `RouteOK` (4-byte destination and router, `CIDRMask(width ≤ 32, 32)`,
no destination octet set beyond the significant ones): marshalling does not
panic and the routes read back. -/
theorem C17_set_get_ClasslessStaticRoute (o : GOpts) (rs : List Route) (hne : rs ≠ [])
    (hd : ∀ r ∈ rs, RouteOK r) :
    ∃ raw, routesToBytes (rs.map Route.toArg) = .ok raw ∧
      Acc.classlessStaticRoute (o.update Code.classlessStaticRoute raw) = some rs :=
  routes_set_get o rs hne hd

example : Val4.routes [24, 10, 0, 1, 192, 168, 0, 1, 0, 10, 0, 0, 254] =
    some [⟨[10, 0, 1, 0], 24, [192, 168, 0, 1]⟩, ⟨[0, 0, 0, 0], 0, [10, 0, 0, 254]⟩] := by
  simp [Val4.routes, Val4.routeList]
example : Val4.routes [33, 10, 0, 1, 0, 1, 192, 168, 0, 1] = none ∧
    Val4.routes [24, 10, 0, 1, 192, 168, 0] = none := by
  simp [Val4.routes, Val4.routeList]
example : RouteOK ⟨[10, 0, 1, 0], 24, some [192, 168, 0, 1]⟩ :=
  ⟨rfl, by decide, ⟨_, rfl, rfl⟩, by decide⟩

/-! ## parameter request list (RFC 2132 §9.8): one code per octet -/

theorem C17_ParameterRequestList_wf (o : GOpts) (v : Bytes) (xs : List UInt8)
    (h : o.get Code.parameterRequestList = some v) (hs : Val4.codes v = some xs) :
    Acc.parameterRequestList o = some xs := Acc.parameterRequestList_reads.wf h hs
theorem C17_ParameterRequestList_absent (o : GOpts) (h : o.get Code.parameterRequestList = none) :
    Acc.parameterRequestList o = none := Acc.parameterRequestList_reads.absent h
/-- `OptParameterRequestList(codes...)` for a non-empty list. -/
theorem C17_set_get_ParameterRequestList (o : GOpts) (cs : List UInt8) (hd : cs ≠ []) :
    Acc.parameterRequestList (o.update Code.parameterRequestList (codesToBytes cs)) = some cs := by
  rw [codesToBytes, goBuf_ne_nil hd]; exact Acc.parameterRequestList_reads.set_get rfl

example : Val4.codes [1, 3, 6, 15] = some [1, 3, 6, 15] := rfl

/-! ## relay agent information (RFC 3046)

`Val4.relay` is RFC 3046 read as written: SubOpt/Len/Value tuples tiling the
value exactly, no pad and no end code.  The library parses option 82 with the
options-field grammar (octet 0 in code position = pad, 255 = end), so the
statements against the RFC are FALSE of model and code: known finding
`acc-RelayAgentInfo-pad-end` (not fixed in /repo: relay agents may pad).  The
full statements are kept as `def`s, with the proved restriction to values that
have no 0/255 octet in code position, the counterexamples (replayed on the
real code, `corpus/v4acc.txt`), and the exact characterisation of what the
accessor computes (`C17_RelayAgentInfo_padend_*`).  No other typed accessor of
`*DHCPv4` parses sub-options with `Options.FromBytes` (vendor-specific
information, option 43, has no typed accessor). -/

/-- RFC 3046: a well-formed field is returned as its code ↦ value map -/
def C17_RelayAgentInfo_wf_full : Prop :=
  ∀ (o : GOpts) (v : Bytes) (m : UInt8 → Option Bytes),
    o.get Code.relayAgentInfo = some v → Val4.relay v = some m → Acc.relayAgentInfo o = some ⟨m⟩

/-- RFC 3046: a field that is not a sequence of complete tuples gives nil -/
def C17_RelayAgentInfo_bad_full : Prop :=
  ∀ (o : GOpts) (v : Bytes),
    o.get Code.relayAgentInfo = some v → Val4.relay v = none → Acc.relayAgentInfo o = none

theorem C17_RelayAgentInfo_wf_partial (o : GOpts) (v : Bytes) (m : UInt8 → Option Bytes)
    (hc : Val4.noPadEndCodes v = true)
    (h : o.get Code.relayAgentInfo = some v) (hs : Val4.relay v = some m) :
    Acc.relayAgentInfo o = some ⟨m⟩ :=
  Acc.relayAgentInfo_reads.wf h ((relayPadEnd_eq_strict v hc).trans hs)

theorem C17_RelayAgentInfo_bad_partial (o : GOpts) (v : Bytes)
    (hc : Val4.noPadEndCodes v = true)
    (h : o.get Code.relayAgentInfo = some v) (hs : Val4.relay v = none) :
    Acc.relayAgentInfo o = none :=
  Acc.relayAgentInfo_reads.bad h ((relayPadEnd_eq_strict v hc).trans hs)

/-- `00 01 07`: RFC 3046 reads sub-option 0 = [7]; the accessor skips the 0 as
padding, then finds code 1 announcing 7 octets and returns nil. -/
theorem C17_RelayAgentInfo_wf_counterexample : ¬ C17_RelayAgentInfo_wf_full := by
  intro hfull
  have hs : Val4.relay [0, 1, 7] = some (Val4.subOptionValue [(0, [7])]) := by
    simp [Val4.relay, Val4.subOptions]
  have h := hfull (GOpts.empty.update Code.relayAgentInfo (some [0, 1, 7])) [0, 1, 7] _
    (GOpts.get_update_same _ _ _) hs
  simp [Acc.relayAgentInfo, GOpts.get_update_same, relayFromBytes_eq, Val4.relayPadEnd,
    Val4.subOptionsPadEnd] at h

/-- `01 02 'a' 'b' ff 09 09`: the tuple that starts with code 255 announces 9
octets and has 1; the accessor returns the partial map {1:"ab"} instead of nil
(everything after a 255 octet in code position is ignored). -/
theorem C17_RelayAgentInfo_bad_counterexample : ¬ C17_RelayAgentInfo_bad_full := by
  intro hfull
  have h := hfull (GOpts.empty.update Code.relayAgentInfo (some [1, 2, 97, 98, 255, 9, 9]))
    [1, 2, 97, 98, 255, 9, 9] (GOpts.get_update_same _ _ _)
    (by simp [Val4.relay, Val4.subOptions])
  simp [Acc.relayAgentInfo, GOpts.get_update_same, relayFromBytes_eq, Val4.relayPadEnd,
    Val4.subOptionsPadEnd] at h

/-- what the accessor computes, exactly: the options-field grammar's map … -/
theorem C17_RelayAgentInfo_padend_wf (o : GOpts) (v : Bytes) (m : UInt8 → Option Bytes)
    (h : o.get Code.relayAgentInfo = some v) (hs : Val4.relayPadEnd v = some m) :
    Acc.relayAgentInfo o = some ⟨m⟩ := Acc.relayAgentInfo_reads.wf h hs
/-- … and nil on every value that grammar rejects (a code without its length
octet — F9, fixed —, a value running past the end) -/
theorem C17_RelayAgentInfo_padend_bad (o : GOpts) (v : Bytes)
    (h : o.get Code.relayAgentInfo = some v) (hs : Val4.relayPadEnd v = none) :
    Acc.relayAgentInfo o = none := Acc.relayAgentInfo_reads.bad h hs
theorem C17_RelayAgentInfo_absent (o : GOpts) (h : o.get Code.relayAgentInfo = none) :
    Acc.relayAgentInfo o = none := Acc.relayAgentInfo_reads.absent h
/-- `OptRelayAgentInfo(subopts...)` for a non-empty set of sub-options with
codes other than 0 and 255, values of any length (> 255 octets are split and
re-joined). -/
theorem C17_set_get_RelayAgentInfo (o : GOpts) (m : Opts) (h0 : m.f 0 = none) (h255 : m.f 255 = none)
    (hne : ∃ k, (m.f k).isSome) :
    Acc.relayAgentInfo (o.update Code.relayAgentInfo (relayToBytes m)) = some m :=
  relay_set_get o m h0 h255 hne

/-- the value of §7 F9 (`[1 2 'a' 'b' 2]`, a code without its length octet) is
malformed and inside the partial theorems' domain … -/
example : Val4.relay [1, 2, 97, 98, 2] = none ∧ Val4.noPadEndCodes [1, 2, 97, 98, 2] = true := by
  simp [Val4.relay, Val4.subOptions, Val4.noPadEndCodes]
/-- … and so is a complete list, read as its code/value tuples -/
example : Val4.subOptions [1, 2, 97, 98, 2, 1, 99] = some [(1, [97, 98]), (2, [99])] ∧
    Val4.noPadEndCodes [1, 2, 97, 98, 2, 1, 99] = true := by
  simp [Val4.subOptions, Val4.noPadEndCodes]

/-! ## user class (RFC 3004): length-prefixed classes tiling the value; a value
that is not RFC 3004 is returned whole as a single class (documented
fallback for clients that send the bare class) -/

theorem C17_UserClass_wf (o : GOpts) (v : Bytes) (xs : List Bytes)
    (h : o.get Code.userClass = some v) (hs : Val4.userClasses v = some xs) :
    Acc.userClass o = some xs := Acc.userClass_reads.wf h (by rw [hs]; rfl)
theorem C17_UserClass_bad (o : GOpts) (v : Bytes)
    (h : o.get Code.userClass = some v) (hs : Val4.userClasses v = none) :
    Acc.userClass o = some [v] := Acc.userClass_reads.wf h (by rw [hs]; rfl)
theorem C17_UserClass_absent (o : GOpts) (h : o.get Code.userClass = none) :
    Acc.userClass o = none := Acc.userClass_reads.absent h
/-- `OptRFC3004UserClass(classes)` for a non-empty list of classes of 1..255 octets. -/
theorem C17_set_get_UserClass (o : GOpts) (xs : List Bytes) (hne : xs ≠ [])
    (hd : ∀ x ∈ xs, 0 < x.length ∧ x.length < 256) :
    Acc.userClass (o.update Code.userClass (stringsToBytes xs)) = some xs := by
  have hne' := flatMap_ne_nil (f := fun s => UInt8.ofNat s.length :: s) hne (by simp)
  rw [stringsToBytes, goBuf_ne_nil hne']
  exact Acc.userClass_reads.set_get (by rw [userClasses_of_ne hne', classes_enc xs hd]; rfl)
/-- `OptUserClass(s)` (the bare class) for a string that is not itself a valid
RFC 3004 list. -/
theorem C17_set_get_UserClass_bare (o : GOpts) (s : Bytes) (hd : Val4.userClasses s = none) :
    Acc.userClass (o.update Code.userClass (stringToBytes s)) = some [s] :=
  Acc.userClass_reads.set_get (by rw [hd]; rfl)

example : Val4.userClasses [1, 97, 2, 98, 99] = some [[97], [98, 99]] ∧
    Val4.userClasses [1, 97, 0, 98] = none ∧ Val4.userClasses [3, 97, 98] = none ∧
    Val4.userClasses [] = none := by
  simp [Val4.userClasses, Val4.classes]

/-! ## vendor-identifying vendor class (RFC 3925), else nil -/

theorem C17_VIVC_wf (o : GOpts) (v : Bytes) (xs : List (Nat × Bytes))
    (h : o.get Code.vivc = some v) (hs : Val4.vivc v = some xs) :
    Acc.vivc o = some (xs.map ofSpecVIVC) := Acc.vivc_reads.wf h hs
theorem C17_VIVC_bad (o : GOpts) (v : Bytes)
    (h : o.get Code.vivc = some v) (hs : Val4.vivc v = none) :
    Acc.vivc o = none := Acc.vivc_reads.bad h hs
theorem C17_VIVC_absent (o : GOpts) (h : o.get Code.vivc = none) : Acc.vivc o = none :=
  Acc.vivc_reads.absent h
/-- `OptVIVC(ids...)` for a non-empty list with 32-bit enterprise numbers and
data of at most 255 octets. -/
theorem C17_set_get_VIVC (o : GOpts) (ids : List VIVCId) (hne : ids ≠ [])
    (hd : ∀ i ∈ ids, i.entID < 4294967296 ∧ i.data.length < 256) :
    Acc.vivc (o.update Code.vivc (vivcToBytes ids)) = some ids := by
  have hne' := flatMap_ne_nil (f := fun i => be32 i.entID ++ UInt8.ofNat i.data.length :: i.data) hne
    (by simp [be32])
  rw [vivcToBytes, goBuf_ne_nil hne',
    Acc.vivc_reads.set_get ((vivc_of_ne hne').trans (vendorClasses_enc ids hd)), List.map_map]
  exact congrArg some (List.map_id' ids)

example : Val4.vivc [0, 0, 0, 9, 2, 97, 98, 0, 0, 1, 55, 0] = some [(9, [97, 98]), (311, [])] ∧
    Val4.vivc [0, 0, 0, 9, 3, 97, 98] = none ∧ Val4.vivc [0, 0, 0, 9] = none := by
  simp [Val4.vivc, Val4.vendorClasses]

/-! ## client system architecture (RFC 4578 §2.1): one or more 16-bit types, else nil -/

theorem C17_ClientArch_wf (o : GOpts) (v : Bytes) (xs : List Nat)
    (h : o.get Code.clientArch = some v) (hs : Val4.archs v = some xs) :
    Acc.clientArch o = some xs := Acc.clientArch_reads.wf h hs
theorem C17_ClientArch_bad (o : GOpts) (v : Bytes)
    (h : o.get Code.clientArch = some v) (hs : Val4.archs v = none) :
    Acc.clientArch o = none := Acc.clientArch_reads.bad h hs
theorem C17_ClientArch_absent (o : GOpts) (h : o.get Code.clientArch = none) :
    Acc.clientArch o = none := Acc.clientArch_reads.absent h
/-- `OptClientArch(archs...)` for a non-empty list of 16-bit values. -/
theorem C17_set_get_ClientArch (o : GOpts) (as : List Nat) (hne : as ≠ [])
    (hd : ∀ a ∈ as, a < 65536) :
    Acc.clientArch (o.update Code.clientArch (archsToBytes as)) = some as := by
  have hne' := flatMap_ne_nil (f := be16) hne (by simp [be16])
  rw [archsToBytes, goBuf_ne_nil hne']
  exact Acc.clientArch_reads.set_get ((archs_of_ne hne').trans (pairs_enc as hd))

example : Val4.archs [0, 7, 0, 9] = some [7, 9] ∧ Val4.archs [0, 7, 0] = none ∧ Val4.archs [] = none := by
  decide

/-! ## domain search list (RFC 3397: RFC 1035 names with compression), else nil

`Val4.searchList v ns` is the declarative RFC reading of C19's spec
(`Spec.Name.DecodesTo`); the accessor returns a `*Labels` holding the names and
a private copy of the raw value, or nil. -/

theorem C17_DomainSearch_wf (o : GOpts) (v : Bytes) (ns : List Bytes)
    (h : o.get Code.domainSearch = some v) (hs : Val4.searchList v ns) :
    Acc.domainSearch o = .ok (some { original := some v, labels := ns }) :=
  domainSearch_of_fromBytes o v _ h
    (Label.fromBytes_of_labelsFromBytes (Label.labelsFromBytes_eq_ok_iff.mpr hs))
theorem C17_DomainSearch_bad (o : GOpts) (v : Bytes)
    (h : o.get Code.domainSearch = some v) (hs : ¬ ∃ ns, Val4.searchList v ns) :
    Acc.domainSearch o = .ok none := by
  have := Label.labelsFromBytes_eq_err_iff.mpr hs
  simp [Acc.domainSearch, h, Label.fromBytes, Label.Labels.fromBytes, Label.goBytes, this]
theorem C17_DomainSearch_absent (o : GOpts) (h : o.get Code.domainSearch = none) :
    Acc.domainSearch o = .ok none := by
  simp [Acc.domainSearch, h]
/-- `OptDomainSearch(labels)` for a hand-built set (`NewLabels`, `Labels = ns`)
of one or more valid names (RFC 1035 labels of 1..63 octets, name ≤ 253): the
names read back. -/
theorem C17_set_get_DomainSearch (o : GOpts) (ns : List Bytes) (hv : Spec.Name.ValidNames ns)
    (hne : ns ≠ []) :
    ∃ raw l, labelsGoBytes { original := none, labels := ns } = .ok raw ∧
      Acc.domainSearch (o.update Code.domainSearch raw) = .ok (some l) ∧ l.labels = ns :=
  ⟨_, _, labelsGoBytes_new ns, domainSearch_of_encoded o ns hv hne, rfl⟩
/-- get → edit → set → get: a set obtained by parsing (e.g. from
`DomainSearch()`), whose names the caller then changes to a different
non-empty list of valid names, reads back as the NEW names after
`OptDomainSearch` — whatever the original bytes were (compressed or not). -/
theorem C17_set_get_DomainSearch_edited (o : GOpts) (b : Bytes) (l : Label.Labels) (ns' : List Bytes)
    (hp : Label.fromBytes b = .ok l) (hch : ns' ≠ l.labels)
    (hv : Spec.Name.ValidNames ns') (hne : ns' ≠ []) :
    ∃ raw l', labelsGoBytes { l with labels := ns' } = .ok raw ∧
      Acc.domainSearch (o.update Code.domainSearch raw) = .ok (some l') ∧ l'.labels = ns' :=
  ⟨_, _, labelsGoBytes_edited hp hch, domainSearch_of_encoded o ns' hv hne, rfl⟩
/-- get → set → get without an edit: the very bytes that were parsed are
stored again, and the same set is read back. -/
theorem C17_set_get_DomainSearch_unmodified (o : GOpts) (b : Bytes) (l : Label.Labels)
    (hp : Label.fromBytes b = .ok l) :
    labelsGoBytes l = .ok (some b) ∧
      Acc.domainSearch (o.update Code.domainSearch (some b)) = .ok (some l) :=
  ⟨labelsGoBytes_unmodified hp, domainSearch_of_fromBytes _ _ _ (GOpts.get_update_same _ _ _) hp⟩

/-- `example.com`, `foo.<pointer to offset 0>` is a search list of two names … -/
example : Acc.domainSearch (GOpts.empty.update 119
    (some [7, 101, 120, 97, 109, 112, 108, 101, 3, 99, 111, 109, 0, 3, 102, 111, 111, 192, 0])) =
    .ok (some ⟨some [7, 101, 120, 97, 109, 112, 108, 101, 3, 99, 111, 109, 0, 3, 102, 111, 111, 192, 0],
      [[101, 120, 97, 109, 112, 108, 101, 46, 99, 111, 109],
       [102, 111, 111, 46, 101, 120, 97, 109, 112, 108, 101, 46, 99, 111, 109]]⟩) := by decide
/-- … and a label running past the end is not -/
example : Acc.domainSearch (GOpts.empty.update 119 (some [3, 97, 98])) = .ok none := by decide
example : Spec.Name.ValidNames [[97, 46, 98], [99]] := by decide

/-! ## decoded packets

The theorems above are about the `Options` map with the nil-ness of its values
(`GOpts`).  A packet that came out of `dhcpv4.FromBytes` (`dec4 q = .ok p`) has
such a map, `g` with `decOptsG q = some g` (the option loop re-run with Go's
`append` on possibly nil slices).  `C17_decoded_options` says what it is in
terms of the model packet `p`, whose `Opts` identify nil and empty values:
`g = p.opts.toG` — a key all of whose instances were zero-length (`[code, 0]`
on the wire) holds a NIL slice, so the accessors see it as ABSENT; every other
key holds its non-empty (RFC 3396-concatenated) value; an empty non-nil value
never comes out of the decoder.  The theorems after it lift the accessor
statements to `p`, one theorem per accessor (all 29): for the types that reject
the empty value the zero-length option gives the malformed default, which equals
the absent default, and for strings it reads as "" like the absent option, so
nothing changes; for the parameter request list, the relay agent information,
the user class and the domain search list the RFC reading of the empty value
(empty list / empty map / the fallback's single empty class / empty search list)
is NOT what the accessor returns on a decoded packet (nil): stated as explicit
`some [] → nil` clauses, with the non-empty hypothesis on the clause it affects. -/

/-- **C17 (link to decoded packets).** -/
theorem C17_decoded_options (q : Bytes) (p : Pkt4) (h : dec4 q = .ok p) :
    decOptsG q = some p.opts.toG ∧
    (∀ c, p.opts.f c = none ∨ p.opts.f c = some [] → p.opts.toG.get c = none) ∧
    (∀ c v, p.opts.f c = some v → v ≠ [] → p.opts.toG.get c = some v) ∧
    (∀ c, p.opts.toG.f c ≠ some (some [])) :=
  ⟨decOptsG_of_dec4 h, fun _ hc => Opts.toG_get_none hc, fun _ _ hv hne => Opts.toG_get_some hv hne,
    fun c => Opts.toG_no_empty _ c⟩

theorem C17_decoded_ServerIdentifier (q : Bytes) (p : Pkt4) (g : GOpts) (h : dec4 q = .ok p)
    (hg : decOptsG q = some g) :
    (∀ v x, p.opts.f Code.serverIdentifier = some v → Val4.ip v = some x → Acc.serverIdentifier g = some x) ∧
    (∀ v, p.opts.f Code.serverIdentifier = some v → Val4.ip v = none → Acc.serverIdentifier g = none) ∧
    (p.opts.f Code.serverIdentifier = none → Acc.serverIdentifier g = none) :=
  decoded_lift _ Val4.ip Acc.serverIdentifier some none rfl
    C17_ServerIdentifier_wf C17_ServerIdentifier_bad C17_ServerIdentifier_absent h hg

theorem C17_decoded_Router (q : Bytes) (p : Pkt4) (g : GOpts) (h : dec4 q = .ok p)
    (hg : decOptsG q = some g) :
    (∀ v xs, p.opts.f Code.router = some v → Val4.ips v = some xs → Acc.router g = some (xs.map some)) ∧
    (∀ v, p.opts.f Code.router = some v → Val4.ips v = none → Acc.router g = none) ∧
    (p.opts.f Code.router = none → Acc.router g = none) :=
  decoded_lift _ Val4.ips Acc.router (fun xs => some (xs.map some)) none rfl
    C17_Router_wf C17_Router_bad C17_Router_absent h hg

/-- string (domain name, trailing NULs deleted) on a decoded packet: the
zero-length option reads as "" like the absent one -/
theorem C17_decoded_DomainName (q : Bytes) (p : Pkt4) (g : GOpts) (h : dec4 q = .ok p)
    (hg : decOptsG q = some g) :
    (∀ v x, p.opts.f Code.domainName = some v → Val4.strTrim v = some x → Acc.domainName g = x) ∧
    (p.opts.f Code.domainName = none → Acc.domainName g = []) :=
  decoded_lift_str _ Val4.strTrim Acc.domainName rfl C17_DomainName_wf C17_DomainName_absent h hg

theorem C17_decoded_IPAddressLeaseTime (q : Bytes) (p : Pkt4) (g : GOpts) (dflt : Int)
    (h : dec4 q = .ok p) (hg : decOptsG q = some g) :
    (∀ v x, p.opts.f Code.ipAddressLeaseTime = some v → Val4.seconds v = some x →
      Acc.ipAddressLeaseTime g dflt = x) ∧
    (∀ v, p.opts.f Code.ipAddressLeaseTime = some v → Val4.seconds v = none →
      Acc.ipAddressLeaseTime g dflt = dflt) ∧
    (p.opts.f Code.ipAddressLeaseTime = none → Acc.ipAddressLeaseTime g dflt = dflt) :=
  decoded_lift _ Val4.seconds (Acc.ipAddressLeaseTime · dflt) id dflt rfl
    (fun o v x => C17_IPAddressLeaseTime_wf o v x dflt) (fun o v => C17_IPAddressLeaseTime_bad o v dflt)
    (fun o => C17_IPAddressLeaseTime_absent o dflt) h hg

theorem C17_decoded_MessageType (q : Bytes) (p : Pkt4) (g : GOpts) (h : dec4 q = .ok p)
    (hg : decOptsG q = some g) :
    (∀ v x, p.opts.f Code.messageType = some v → Val4.u8 v = some x → Acc.messageType g = x) ∧
    (∀ v, p.opts.f Code.messageType = some v → Val4.u8 v = none → Acc.messageType g = 0) ∧
    (p.opts.f Code.messageType = none → Acc.messageType g = 0) :=
  decoded_lift _ Val4.u8 Acc.messageType id 0 rfl
    C17_MessageType_wf C17_MessageType_bad C17_MessageType_absent h hg

theorem C17_decoded_ClasslessStaticRoute (q : Bytes) (p : Pkt4) (g : GOpts) (h : dec4 q = .ok p)
    (hg : decOptsG q = some g) :
    (∀ v xs, p.opts.f Code.classlessStaticRoute = some v → Val4.routes v = some xs →
      Acc.classlessStaticRoute g = some (xs.map ofSpecRoute)) ∧
    (∀ v, p.opts.f Code.classlessStaticRoute = some v → Val4.routes v = none →
      Acc.classlessStaticRoute g = none) ∧
    (p.opts.f Code.classlessStaticRoute = none → Acc.classlessStaticRoute g = none) :=
  decoded_lift _ Val4.routes Acc.classlessStaticRoute (fun xs => some (xs.map ofSpecRoute)) none rfl
    C17_ClasslessStaticRoute_wf C17_ClasslessStaticRoute_bad C17_ClasslessStaticRoute_absent h hg

/-- relay agent information on a decoded packet (against the options-field
grammar the accessor implements, `C17_RelayAgentInfo_padend_*`): a NON-EMPTY
value reads as its sub-option map or nil; the zero-length option 82 reads as
nil, NOT as the empty map the grammar gives the empty value -/
theorem C17_decoded_RelayAgentInfo (q : Bytes) (p : Pkt4) (g : GOpts) (h : dec4 q = .ok p)
    (hg : decOptsG q = some g) :
    (∀ v m, p.opts.f Code.relayAgentInfo = some v → v ≠ [] → Val4.relayPadEnd v = some m →
      Acc.relayAgentInfo g = some ⟨m⟩) ∧
    (∀ v, p.opts.f Code.relayAgentInfo = some v → Val4.relayPadEnd v = none →
      Acc.relayAgentInfo g = none) ∧
    (p.opts.f Code.relayAgentInfo = some [] → Acc.relayAgentInfo g = none) ∧
    (p.opts.f Code.relayAgentInfo = none → Acc.relayAgentInfo g = none) := by
  obtain ⟨hsome, hnone⟩ := decoded_get h hg Code.relayAgentInfo
  refine ⟨fun v m hv hne => C17_RelayAgentInfo_padend_wf _ v m (hsome v hv hne), fun v hv hs => ?_,
    fun he => C17_RelayAgentInfo_absent _ (hnone (.inr he)),
    fun hn => C17_RelayAgentInfo_absent _ (hnone (.inl hn))⟩
  by_cases hne : v = []
  · subst hne; exact C17_RelayAgentInfo_absent _ (hnone (.inr hv))
  · exact C17_RelayAgentInfo_padend_bad _ v (hsome v hv hne) hs

/-- parameter request list on a decoded packet: a non-empty value reads as its
codes; the zero-length option 55 reads as nil, NOT as the empty list -/
theorem C17_decoded_ParameterRequestList (q : Bytes) (p : Pkt4) (g : GOpts) (h : dec4 q = .ok p)
    (hg : decOptsG q = some g) :
    (∀ v xs, p.opts.f Code.parameterRequestList = some v → v ≠ [] → Val4.codes v = some xs →
      Acc.parameterRequestList g = some xs) ∧
    (p.opts.f Code.parameterRequestList = some [] → Acc.parameterRequestList g = none) ∧
    (p.opts.f Code.parameterRequestList = none → Acc.parameterRequestList g = none) :=
  have ⟨hsome, hnone⟩ := decoded_get h hg Code.parameterRequestList
  ⟨fun v xs hv hne => C17_ParameterRequestList_wf _ v xs (hsome v hv hne),
    fun he => C17_ParameterRequestList_absent _ (hnone (.inr he)),
    fun hn => C17_ParameterRequestList_absent _ (hnone (.inl hn))⟩

/-- the distinction is real: the same empty value under key 55 / 82 reads as the
empty list / map when it is an empty NON-nil slice (only a caller can put one
there), and as nil when it came through the decoder -/
example : Acc.parameterRequestList (GOpts.empty.update 55 (some [])) = some [] ∧
    Acc.parameterRequestList (Opts.toG ⟨fun c => if c = 55 then some [] else none⟩) = none := by
  constructor <;> decide

/-! ### the other typed accessors on decoded packets

Every remaining accessor, one theorem each, through the generic steps of
Lemmas/V4ValDecoded.lean (`decoded_lift` for the types that reject the empty
value, `decoded_lift_str` for strings, `decoded_get` where the empty value has
an RFC reading of its own).  `p.opts.f c` is the RFC 3396 reassembly of the
instances of option `c` in the options field (C04); `g` is the Go `Options`
map of the decoded packet.  With the eight theorems above this covers all 29
typed accessors of `*DHCPv4`. -/

theorem C17_decoded_BroadcastAddress (q : Bytes) (p : Pkt4) (g : GOpts) (h : dec4 q = .ok p)
    (hg : decOptsG q = some g) :
    (∀ v x, p.opts.f Code.broadcastAddress = some v → Val4.ip v = some x → Acc.broadcastAddress g = some x) ∧
    (∀ v, p.opts.f Code.broadcastAddress = some v → Val4.ip v = none → Acc.broadcastAddress g = none) ∧
    (p.opts.f Code.broadcastAddress = none → Acc.broadcastAddress g = none) :=
  decoded_lift _ Val4.ip Acc.broadcastAddress some none rfl C17_BroadcastAddress_wf C17_BroadcastAddress_bad C17_BroadcastAddress_absent h hg

theorem C17_decoded_RequestedIPAddress (q : Bytes) (p : Pkt4) (g : GOpts) (h : dec4 q = .ok p)
    (hg : decOptsG q = some g) :
    (∀ v x, p.opts.f Code.requestedIPAddress = some v → Val4.ip v = some x → Acc.requestedIPAddress g = some x) ∧
    (∀ v, p.opts.f Code.requestedIPAddress = some v → Val4.ip v = none → Acc.requestedIPAddress g = none) ∧
    (p.opts.f Code.requestedIPAddress = none → Acc.requestedIPAddress g = none) :=
  decoded_lift _ Val4.ip Acc.requestedIPAddress some none rfl C17_RequestedIPAddress_wf C17_RequestedIPAddress_bad C17_RequestedIPAddress_absent h hg

theorem C17_decoded_NTPServers (q : Bytes) (p : Pkt4) (g : GOpts) (h : dec4 q = .ok p)
    (hg : decOptsG q = some g) :
    (∀ v xs, p.opts.f Code.ntpServers = some v → Val4.ips v = some xs → Acc.ntpServers g = some (xs.map some)) ∧
    (∀ v, p.opts.f Code.ntpServers = some v → Val4.ips v = none → Acc.ntpServers g = none) ∧
    (p.opts.f Code.ntpServers = none → Acc.ntpServers g = none) :=
  decoded_lift _ Val4.ips Acc.ntpServers (fun xs => some (xs.map some)) none rfl
    C17_NTPServers_wf C17_NTPServers_bad C17_NTPServers_absent h hg

theorem C17_decoded_NetBIOSNameServers (q : Bytes) (p : Pkt4) (g : GOpts) (h : dec4 q = .ok p)
    (hg : decOptsG q = some g) :
    (∀ v xs, p.opts.f Code.netBIOSNameServers = some v → Val4.ips v = some xs → Acc.netBIOSNameServers g = some (xs.map some)) ∧
    (∀ v, p.opts.f Code.netBIOSNameServers = some v → Val4.ips v = none → Acc.netBIOSNameServers g = none) ∧
    (p.opts.f Code.netBIOSNameServers = none → Acc.netBIOSNameServers g = none) :=
  decoded_lift _ Val4.ips Acc.netBIOSNameServers (fun xs => some (xs.map some)) none rfl
    C17_NetBIOSNameServers_wf C17_NetBIOSNameServers_bad C17_NetBIOSNameServers_absent h hg

theorem C17_decoded_DNS (q : Bytes) (p : Pkt4) (g : GOpts) (h : dec4 q = .ok p)
    (hg : decOptsG q = some g) :
    (∀ v xs, p.opts.f Code.dns = some v → Val4.ips v = some xs → Acc.dns g = some (xs.map some)) ∧
    (∀ v, p.opts.f Code.dns = some v → Val4.ips v = none → Acc.dns g = none) ∧
    (p.opts.f Code.dns = none → Acc.dns g = none) :=
  decoded_lift _ Val4.ips Acc.dns (fun xs => some (xs.map some)) none rfl
    C17_DNS_wf C17_DNS_bad C17_DNS_absent h hg

/-- vendor class identifier (opaque octets, nothing deleted) on a decoded packet: the zero-length option reads as "" like the absent one -/
theorem C17_decoded_ClassIdentifier (q : Bytes) (p : Pkt4) (g : GOpts) (h : dec4 q = .ok p)
    (hg : decOptsG q = some g) :
    (∀ v x, p.opts.f Code.classIdentifier = some v → Val4.str v = some x → Acc.classIdentifier g = x) ∧
    (p.opts.f Code.classIdentifier = none → Acc.classIdentifier g = []) :=
  decoded_lift_str _ Val4.str Acc.classIdentifier rfl C17_ClassIdentifier_wf C17_ClassIdentifier_absent h hg

/-- string (trailing NULs deleted) on a decoded packet: the zero-length option reads as "" like the absent one -/
theorem C17_decoded_RootPath (q : Bytes) (p : Pkt4) (g : GOpts) (h : dec4 q = .ok p)
    (hg : decOptsG q = some g) :
    (∀ v x, p.opts.f Code.rootPath = some v → Val4.strTrim v = some x → Acc.rootPath g = x) ∧
    (p.opts.f Code.rootPath = none → Acc.rootPath g = []) :=
  decoded_lift_str _ Val4.strTrim Acc.rootPath rfl C17_RootPath_wf C17_RootPath_absent h hg

/-- string (trailing NULs deleted) on a decoded packet: the zero-length option reads as "" like the absent one -/
theorem C17_decoded_Message (q : Bytes) (p : Pkt4) (g : GOpts) (h : dec4 q = .ok p)
    (hg : decOptsG q = some g) :
    (∀ v x, p.opts.f Code.message = some v → Val4.strTrim v = some x → Acc.message g = x) ∧
    (p.opts.f Code.message = none → Acc.message g = []) :=
  decoded_lift_str _ Val4.strTrim Acc.message rfl C17_Message_wf C17_Message_absent h hg

/-- string (trailing NULs deleted) on a decoded packet: the zero-length option reads as "" like the absent one -/
theorem C17_decoded_HostName (q : Bytes) (p : Pkt4) (g : GOpts) (h : dec4 q = .ok p)
    (hg : decOptsG q = some g) :
    (∀ v x, p.opts.f Code.hostName = some v → Val4.strTrim v = some x → Acc.hostName g = x) ∧
    (p.opts.f Code.hostName = none → Acc.hostName g = []) :=
  decoded_lift_str _ Val4.strTrim Acc.hostName rfl C17_HostName_wf C17_HostName_absent h hg

/-- string (trailing NULs deleted) on a decoded packet: the zero-length option reads as "" like the absent one -/
theorem C17_decoded_BootFileNameOption (q : Bytes) (p : Pkt4) (g : GOpts) (h : dec4 q = .ok p)
    (hg : decOptsG q = some g) :
    (∀ v x, p.opts.f Code.bootfileName = some v → Val4.strTrim v = some x → Acc.bootFileNameOption g = x) ∧
    (p.opts.f Code.bootfileName = none → Acc.bootFileNameOption g = []) :=
  decoded_lift_str _ Val4.strTrim Acc.bootFileNameOption rfl C17_BootFileNameOption_wf C17_BootFileNameOption_absent h hg

/-- string (trailing NULs deleted) on a decoded packet: the zero-length option reads as "" like the absent one -/
theorem C17_decoded_TFTPServerName (q : Bytes) (p : Pkt4) (g : GOpts) (h : dec4 q = .ok p)
    (hg : decOptsG q = some g) :
    (∀ v x, p.opts.f Code.tftpServerName = some v → Val4.strTrim v = some x → Acc.tftpServerName g = x) ∧
    (p.opts.f Code.tftpServerName = none → Acc.tftpServerName g = []) :=
  decoded_lift_str _ Val4.strTrim Acc.tftpServerName rfl C17_TFTPServerName_wf C17_TFTPServerName_absent h hg

theorem C17_decoded_IPAddressRenewalTime (q : Bytes) (p : Pkt4) (g : GOpts) (dflt : Int)
    (h : dec4 q = .ok p) (hg : decOptsG q = some g) :
    (∀ v x, p.opts.f Code.renewalTime = some v → Val4.seconds v = some x → Acc.ipAddressRenewalTime g dflt = x) ∧
    (∀ v, p.opts.f Code.renewalTime = some v → Val4.seconds v = none → Acc.ipAddressRenewalTime g dflt = dflt) ∧
    (p.opts.f Code.renewalTime = none → Acc.ipAddressRenewalTime g dflt = dflt) :=
  decoded_lift _ Val4.seconds (Acc.ipAddressRenewalTime · dflt) id dflt rfl (fun o v x => C17_IPAddressRenewalTime_wf o v x dflt)
    (fun o v => C17_IPAddressRenewalTime_bad o v dflt) (fun o => C17_IPAddressRenewalTime_absent o dflt) h hg

theorem C17_decoded_IPAddressRebindingTime (q : Bytes) (p : Pkt4) (g : GOpts) (dflt : Int)
    (h : dec4 q = .ok p) (hg : decOptsG q = some g) :
    (∀ v x, p.opts.f Code.rebindingTime = some v → Val4.seconds v = some x → Acc.ipAddressRebindingTime g dflt = x) ∧
    (∀ v, p.opts.f Code.rebindingTime = some v → Val4.seconds v = none → Acc.ipAddressRebindingTime g dflt = dflt) ∧
    (p.opts.f Code.rebindingTime = none → Acc.ipAddressRebindingTime g dflt = dflt) :=
  decoded_lift _ Val4.seconds (Acc.ipAddressRebindingTime · dflt) id dflt rfl (fun o v x => C17_IPAddressRebindingTime_wf o v x dflt)
    (fun o v => C17_IPAddressRebindingTime_bad o v dflt) (fun o => C17_IPAddressRebindingTime_absent o dflt) h hg

theorem C17_decoded_IPv6OnlyPreferred (q : Bytes) (p : Pkt4) (g : GOpts) (h : dec4 q = .ok p)
    (hg : decOptsG q = some g) :
    (∀ v x, p.opts.f Code.ipv6OnlyPreferred = some v → Val4.seconds v = some x → Acc.ipv6OnlyPreferred g = (x, true)) ∧
    (∀ v, p.opts.f Code.ipv6OnlyPreferred = some v → Val4.seconds v = none → Acc.ipv6OnlyPreferred g = (0, false)) ∧
    (p.opts.f Code.ipv6OnlyPreferred = none → Acc.ipv6OnlyPreferred g = (0, false)) :=
  decoded_lift _ Val4.seconds Acc.ipv6OnlyPreferred (·, true) (0, false) rfl
    C17_IPv6OnlyPreferred_wf C17_IPv6OnlyPreferred_bad C17_IPv6OnlyPreferred_absent h hg

/-- maximum message size on a decoded packet (absent, zero-length and malformed all give the error) -/
theorem C17_decoded_MaxMessageSize (q : Bytes) (p : Pkt4) (g : GOpts) (h : dec4 q = .ok p)
    (hg : decOptsG q = some g) :
    (∀ v x, p.opts.f Code.maxMessageSize = some v → Val4.u16 v = some x → Acc.maxMessageSize g = .ok x) ∧
    (∀ v, p.opts.f Code.maxMessageSize = some v → Val4.u16 v = none → Acc.maxMessageSize g = .err) ∧
    (p.opts.f Code.maxMessageSize = none → Acc.maxMessageSize g = .err) :=
  decoded_lift _ Val4.u16 Acc.maxMessageSize .ok .err rfl
    C17_MaxMessageSize_wf C17_MaxMessageSize_bad C17_MaxMessageSize_absent h hg

theorem C17_decoded_AutoConfigure (q : Bytes) (p : Pkt4) (g : GOpts) (h : dec4 q = .ok p)
    (hg : decOptsG q = some g) :
    (∀ v x, p.opts.f Code.autoConfigure = some v → Val4.u8 v = some x → Acc.autoConfigure g = (x, true)) ∧
    (∀ v, p.opts.f Code.autoConfigure = some v → Val4.u8 v = none → Acc.autoConfigure g = (0, false)) ∧
    (p.opts.f Code.autoConfigure = none → Acc.autoConfigure g = (0, false)) :=
  decoded_lift _ Val4.u8 Acc.autoConfigure (·, true) (0, false) rfl
    C17_AutoConfigure_wf C17_AutoConfigure_bad C17_AutoConfigure_absent h hg

theorem C17_decoded_SubnetMask (q : Bytes) (p : Pkt4) (g : GOpts) (h : dec4 q = .ok p)
    (hg : decOptsG q = some g) :
    (∀ v x, p.opts.f Code.subnetMask = some v → Val4.mask v = some x → Acc.subnetMask g = some x) ∧
    (∀ v, p.opts.f Code.subnetMask = some v → Val4.mask v = none → Acc.subnetMask g = none) ∧
    (p.opts.f Code.subnetMask = none → Acc.subnetMask g = none) :=
  decoded_lift _ Val4.mask Acc.subnetMask some none rfl
    C17_SubnetMask_wf C17_SubnetMask_bad C17_SubnetMask_absent h hg

theorem C17_decoded_VIVC (q : Bytes) (p : Pkt4) (g : GOpts) (h : dec4 q = .ok p)
    (hg : decOptsG q = some g) :
    (∀ v xs, p.opts.f Code.vivc = some v → Val4.vivc v = some xs → Acc.vivc g = some (xs.map ofSpecVIVC)) ∧
    (∀ v, p.opts.f Code.vivc = some v → Val4.vivc v = none → Acc.vivc g = none) ∧
    (p.opts.f Code.vivc = none → Acc.vivc g = none) :=
  decoded_lift _ Val4.vivc Acc.vivc (fun xs => some (xs.map ofSpecVIVC)) none rfl
    C17_VIVC_wf C17_VIVC_bad C17_VIVC_absent h hg

theorem C17_decoded_ClientArch (q : Bytes) (p : Pkt4) (g : GOpts) (h : dec4 q = .ok p)
    (hg : decOptsG q = some g) :
    (∀ v xs, p.opts.f Code.clientArch = some v → Val4.archs v = some xs → Acc.clientArch g = some xs) ∧
    (∀ v, p.opts.f Code.clientArch = some v → Val4.archs v = none → Acc.clientArch g = none) ∧
    (p.opts.f Code.clientArch = none → Acc.clientArch g = none) :=
  decoded_lift _ Val4.archs Acc.clientArch some none rfl
    C17_ClientArch_wf C17_ClientArch_bad C17_ClientArch_absent h hg

/-- user class on a decoded packet: an RFC 3004 value reads as its classes, any
other NON-EMPTY value as one class holding the whole value; the zero-length
option 77 reads as nil, NOT as the single empty class the fallback gives an
empty non-nil value -/
theorem C17_decoded_UserClass (q : Bytes) (p : Pkt4) (g : GOpts) (h : dec4 q = .ok p)
    (hg : decOptsG q = some g) :
    (∀ v xs, p.opts.f Code.userClass = some v → Val4.userClasses v = some xs → Acc.userClass g = some xs) ∧
    (∀ v, p.opts.f Code.userClass = some v → v ≠ [] → Val4.userClasses v = none →
      Acc.userClass g = some [v]) ∧
    (p.opts.f Code.userClass = some [] → Acc.userClass g = none) ∧
    (p.opts.f Code.userClass = none → Acc.userClass g = none) := by
  obtain ⟨hsome, hnone⟩ := decoded_get h hg Code.userClass
  refine ⟨fun v xs hv hs => C17_UserClass_wf _ v xs (hsome v hv ?_) hs,
    fun v hv hne hs => C17_UserClass_bad _ v (hsome v hv hne) hs,
    fun he => C17_UserClass_absent _ (hnone (.inr he)), fun hn => C17_UserClass_absent _ (hnone (.inl hn))⟩
  intro e; subst e; simp [Val4.userClasses] at hs

/-- domain search list on a decoded packet: a NON-EMPTY value with an RFC 1035
reading gives its names (and keeps a copy of the reassembled value), a value
without one gives nil; the zero-length option 119 reads as nil, NOT as the
empty search list that is the RFC reading of the empty value
(`Val4.searchList [] []`) -/
theorem C17_decoded_DomainSearch (q : Bytes) (p : Pkt4) (g : GOpts) (h : dec4 q = .ok p)
    (hg : decOptsG q = some g) :
    (∀ v ns, p.opts.f Code.domainSearch = some v → v ≠ [] → Val4.searchList v ns →
      Acc.domainSearch g = .ok (some { original := some v, labels := ns })) ∧
    (∀ v, p.opts.f Code.domainSearch = some v → (¬ ∃ ns, Val4.searchList v ns) →
      Acc.domainSearch g = .ok none) ∧
    (p.opts.f Code.domainSearch = some [] → Acc.domainSearch g = .ok none) ∧
    (p.opts.f Code.domainSearch = none → Acc.domainSearch g = .ok none) := by
  obtain ⟨hsome, hnone⟩ := decoded_get h hg Code.domainSearch
  refine ⟨fun v ns hv hne hs => C17_DomainSearch_wf _ v ns (hsome v hv hne) hs, fun v hv hs => ?_,
    fun he => C17_DomainSearch_absent _ (hnone (.inr he)),
    fun hn => C17_DomainSearch_absent _ (hnone (.inl hn))⟩
  by_cases hne : v = []
  · subst hne; exact C17_DomainSearch_absent _ (hnone (.inr hv))
  · exact C17_DomainSearch_bad _ v (hsome v hv hne) hs

/-- the distinction is real for these two as well: an empty NON-nil value (only
a caller can store one) reads as one empty class / the empty search list, the
decoder's zero-length option as nil -/
example : Acc.userClass (GOpts.empty.update 77 (some [])) = some [[]] ∧
    Acc.userClass (Opts.toG ⟨fun c => if c = 77 then some [] else none⟩) = none ∧
    Acc.domainSearch (GOpts.empty.update 119 (some [])) = .ok (some ⟨some [], []⟩) ∧
    Acc.domainSearch (Opts.toG ⟨fun c => if c = 119 then some [] else none⟩) = .ok none ∧
    Val4.searchList [] [] := by
  refine ⟨by decide, by decide, by decide, by decide, Spec.Name.Names.done⟩

/-- the hypotheses are satisfiable by a real datagram: header + cookie, host
name in two RFC 3396 fragments (`0c 01 68` … `0c 01 69`) around a zero-length
user class (`4d 00`), End.  It decodes; option 12 reassembles to "hi", option
77 to the empty value; on the decoded packet's map HostName() is "hi" and
UserClass() is nil. -/
def C17_example_datagram : Bytes :=
  List.replicate 236 0 ++ [99, 130, 83, 99, 12, 1, 104, 77, 0, 12, 1, 105, 255]

set_option maxRecDepth 100000 in
example :
    (match dec4 C17_example_datagram with
      | .ok p => some (p.opts.f 12, p.opts.f 77) | _ => none) = some (some [104, 105], some []) ∧
    (decOptsG C17_example_datagram).map (fun g => (Acc.hostName g, Acc.userClass g)) =
      some ([104, 105], none) := by
  decide

/-! ## set/get with addresses in their 16-byte IPv4-mapped form

`net.IPv4(a,b,c,d)`, `net.ParseIP("a.b.c.d")` and `ip.To16()` give the 16-byte
form `00×10 ff ff a b c d`.  Every constructor writes `To4()` of what it is
given (`IP.ToBytes`, `IPs.ToBytes`, `Route.Marshal`), so reading back returns
the 4-byte form.  The address-list theorems above (`C17_set_get_Router` …)
already quantify over every address with a 4-byte form; `_ipv4` spells the
mapped case out.  For routes `C17_set_get_ClasslessStaticRoute_mapped` extends
the domain from 4-byte destinations/routers to every form `To4` accepts. -/

theorem C17_to4_ipv4 (a b c d : UInt8) :
    to4 (ipv4 a b c d) = some [a, b, c, d] ∧ to4 [a, b, c, d] = some [a, b, c, d] ∧
    (ipv4 a b c d).length = 16 :=
  ⟨to4_ipv4 a b c d, by simp [to4], by simp [ipv4, zeros]⟩

/-- `OptServerIdentifier(net.IPv4(a,b,c,d))` reads back as the 4-byte address -/
theorem C17_set_get_ServerIdentifier_ipv4 (o : GOpts) (a b c d : UInt8) :
    Acc.serverIdentifier (o.update Code.serverIdentifier (ipToBytes (some (ipv4 a b c d)))) =
      some [a, b, c, d] :=
  C17_set_get_ServerIdentifier o _ _ (to4_ipv4 a b c d)

/-- `OptRouter(net.IPv4(…), …)` (any non-empty list of mapped addresses) reads
back as the list of 4-byte addresses, in order -/
theorem C17_set_get_Router_ipv4 (o : GOpts) (qs : List (UInt8 × UInt8 × UInt8 × UInt8)) (hne : qs ≠ []) :
    Acc.router (o.update Code.router
        (ipsToBytes (qs.map (fun q => some (ipv4 q.1 q.2.1 q.2.2.1 q.2.2.2))))) =
      some (qs.map (fun q => some [q.1, q.2.1, q.2.2.1, q.2.2.2])) :=
  getIPs_set_get_ipv4 _ o qs hne

/-- `OptDNS` likewise (the other two address-list constructors share `getIPs_set_get`) -/
theorem C17_set_get_DNS_ipv4 (o : GOpts) (qs : List (UInt8 × UInt8 × UInt8 × UInt8)) (hne : qs ≠ []) :
    Acc.dns (o.update Code.dns
        (ipsToBytes (qs.map (fun q => some (ipv4 q.1 q.2.1 q.2.2.1 q.2.2.2))))) =
      some (qs.map (fun q => some [q.1, q.2.1, q.2.2.1, q.2.2.2])) :=
  getIPs_set_get_ipv4 _ o qs hne

/-- `OptClasslessStaticRoute(routes...)` for a non-empty list of routes whose
destination and router are given in ANY form with a 4-byte form (4-byte, or
16-byte IPv4-mapped), `CIDRMask(width ≤ 32, 32)`, no destination octet of the
4-byte form set beyond the significant ones: marshalling does not panic and
each route reads back with destination and router in their 4-byte form
(`RouteArg.read`), in order. -/
theorem C17_set_get_ClasslessStaticRoute_mapped (o : GOpts) (as : List RouteArg) (hne : as ≠ [])
    (hd : ∀ a ∈ as, RouteArgOK a) :
    ∃ raw, routesToBytes as = .ok raw ∧
      Acc.classlessStaticRoute (o.update Code.classlessStaticRoute raw) = some (as.map RouteArg.read) :=
  routes_set_get_mapped o as hne hd

/-- the case of seed C17-6: 10.1.2.0/24 via 192.168.0.1, both as `net.IPv4(…)` -/
example : RouteArgOK ⟨some (ipv4 10 1 2 0), 24, some (ipv4 192 168 0 1)⟩ ∧
    RouteArg.read ⟨some (ipv4 10 1 2 0), 24, some (ipv4 192 168 0 1)⟩ =
      ⟨[10, 1, 2, 0], 24, some [192, 168, 0, 1]⟩ := by
  refine ⟨⟨⟨_, _, rfl, to4_ipv4 ..⟩, by decide, ⟨_, _, rfl, to4_ipv4 ..⟩, by decide⟩, by decide⟩

/-- a 16-byte address that is NOT IPv4-mapped has no 4-byte form: with a
non-zero prefix length `Route.Marshal` panics (`To4()` is nil and is sliced) -/
example : routeMarshal ⟨some (List.replicate 16 1), 24, some [192, 168, 0, 1]⟩ = .panic := by decide

/-! ## "never a partial or misaligned value", in one statement: whatever the raw
value, the result is either the spec's value or the default.  Stated for three
accessors (a list, the routes, the relay map); for every accessor with a `Reads`
equation it is `Reads.total`. -/

theorem C17_Router_total (o : GOpts) :
    Acc.router o = none ∨ ∃ v xs, o.get Code.router = some v ∧ Val4.ips v = some xs ∧
      Acc.router o = some (xs.map some) := (getIPs_reads _).total o

theorem C17_ClasslessStaticRoute_total (o : GOpts) :
    Acc.classlessStaticRoute o = none ∨ ∃ v xs, o.get Code.classlessStaticRoute = some v ∧
      Val4.routes v = some xs ∧ Acc.classlessStaticRoute o = some (xs.map ofSpecRoute) :=
  Acc.classlessStaticRoute_reads.total o

theorem C17_RelayAgentInfo_total (o : GOpts) :
    Acc.relayAgentInfo o = none ∨ ∃ v m, o.get Code.relayAgentInfo = some v ∧
      Val4.relayPadEnd v = some m ∧ Acc.relayAgentInfo o = some ⟨m⟩ :=
  Acc.relayAgentInfo_reads.total o

/-- an accessor only depends on its own option: other options in the packet
do not change its result.  Stated for `Router` and the generic update; for every
accessor with a `Reads` equation it is `Reads.update_ne`. -/
theorem C17_other_options_irrelevant (o : GOpts) (k : UInt8) (w : GoBytes) (hk : k ≠ Code.router) :
    Acc.router (o.update k w) = Acc.router o := (getIPs_reads _).update_ne w hk

end Dhcp.V4
