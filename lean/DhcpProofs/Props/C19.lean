import DhcpProofs.Lemmas.LabelApi
/-
  C19 — domain-name label encoding round-trips and decoding follows RFC 1035.
  Property theorems only; helper lemmas live in DhcpProofs/Lemmas/Label*.lean.
  Model: Dhcp/Label.lean (rfc1035label/label.go).  Spec: Dhcp/Spec/Name.lean.

  The empty name "" is a valid name: it is the root name, encodes to the
  single octet 00 and decodes back to "" (so it round-trips like any other).
-/
namespace Dhcp.Label
open Dhcp.Spec.Name

/-- **C19 (termination).** The `for` loop of `labelsFromBytes` returns within
`fuelFor b` iterations on every buffer: the out-of-fuel branch of the model is
unreachable, and more fuel never changes the result. -/
theorem C19_terminates (b : Bytes) :
    ∃ r, loop b (fuelFor b) init = some r ∧ labelsFromBytes b = r ∧
      ∀ k, loop b (fuelFor b + k) init = some r := by
  obtain ⟨r, hr⟩ := loop_terminates b (fuelFor b) init (measure_init_le b)
  exact ⟨r, hr, labelsFromBytes_eq_of_runs ⟨_, hr⟩, fun k => loop_mono b _ k init r hr⟩

/-- **C19 (no panic).** No index or slice expression of `labelsFromBytes` is
ever out of range, on any byte string. -/
theorem C19_no_panic (b : Bytes) : labelsFromBytes b ≠ .panic := labelsFromBytes_ne_panic b

/-- **C19 (soundness).** Whatever `labelsFromBytes` returns without error is
the list of names RFC 1035 §3.1/§4.1.4 (one pointer level) and RFC 4704 §4.2
assign to the buffer. For ALL byte strings. -/
theorem C19_sound (b : Bytes) (ns : List Bytes) (h : labelsFromBytes b = .ok ns) : DecodesTo b ns :=
  labelsFromBytes_eq_ok_iff.mp h

/-- **C19 (completeness).** Every buffer that has an RFC reading is decoded,
to exactly that reading. For ALL byte strings. -/
theorem C19_complete (b : Bytes) (ns : List Bytes) (h : DecodesTo b ns) : labelsFromBytes b = .ok ns :=
  labelsFromBytes_eq_ok_iff.mpr h

/-- Decoding succeeds exactly on the buffers with an RFC reading … -/
theorem C19_decodes_iff (b : Bytes) (ns : List Bytes) : labelsFromBytes b = .ok ns ↔ DecodesTo b ns :=
  labelsFromBytes_eq_ok_iff

/-- … and fails (with an error, never a panic) exactly on the others. -/
theorem C19_fails_iff (b : Bytes) : labelsFromBytes b = .err ↔ ¬ ∃ ns, DecodesTo b ns :=
  labelsFromBytes_eq_err_iff

/-- The RFC reading of a buffer is unique. -/
theorem C19_spec_functional (b : Bytes) (ns ns' : List Bytes) (h : DecodesTo b ns) (h' : DecodesTo b ns') :
    ns = ns' :=
  Res.ok.inj ((C19_complete b ns h).symm.trans (C19_complete b ns' h'))

/-- **C19 (encoder output is the RFC wire form).** The encoding of any list of
valid names has that list as its RFC reading. -/
theorem C19_encode_spec (ns : List Bytes) (h : ValidNames ns) : DecodesTo (labelsToBytes ns) ns :=
  names_encode _ ns h

/-- **C19 (round trip).** For every list of valid names — any number of names,
any number of labels, the root name "" included — decoding the encoding
returns the list. -/
theorem C19_roundtrip (ns : List Bytes) (h : ValidNames ns) : labelsFromBytes (labelsToBytes ns) = .ok ns :=
  C19_complete _ ns (C19_encode_spec ns h)

/-- Round trip through the `Labels` object: a fresh set with valid names,
encoded and parsed again, carries the same names. -/
theorem C19_roundtrip_labels (ns : List Bytes) (h : ValidNames ns) :
    ∃ b, ({ Labels.new with labels := ns }).toBytesR = .ok b ∧
      Labels.fromBytes (some b) = .ok { original := some b, labels := ns } := by
  exact ⟨labelsToBytes ns, by rw [toBytesR_eq, toBytes_new], fromBytes_labelsToBytes ns h⟩

/-- **C19 (unmodified set re-emits its bytes).** A label set parsed from a
buffer (nil or not) encodes to exactly that buffer — compression pointers,
partial name and all. -/
theorem C19_unmodified (d : Option Bytes) (l : Labels) (h : Labels.fromBytes d = .ok l) :
    l.toBytesR = .ok (goBytes d) := by
  rw [toBytesR_eq, Labels.toBytes_of_fromBytes h]

/-- **C19 (modified set encodes its new names).** Once the names of a parsed
set are replaced by a different list, `ToBytes` is the fresh encoding of the
new list (and nothing of the original bytes). -/
theorem C19_modified (d : Option Bytes) (l : Labels) (ns' : List Bytes)
    (h : Labels.fromBytes d = .ok l) (hne : ns' ≠ l.labels) :
    ({ l with labels := ns' }).toBytesR = .ok (labelsToBytes ns') := by
  rw [toBytesR_eq, Labels.toBytes_of_labels_ne h hne]

/-- A set built with `NewLabels` (no original bytes) always encodes its names. -/
theorem C19_modified_new (ns : List Bytes) :
    ({ Labels.new with labels := ns }).toBytesR = .ok (labelsToBytes ns) := by
  rw [toBytesR_eq, toBytes_new]

/-- The same two facts for the plain-function API the other codec models use
(`fromBytes : Bytes → Res Labels`, `Labels.toBytes : Labels → Bytes`). -/
theorem C19_unmodified_bytes (b : Bytes) (l : Labels) (h : fromBytes b = .ok l) : l.toBytes = b :=
  fromBytes_toBytes h

theorem C19_modified_bytes (b : Bytes) (l : Labels) (ns' : List Bytes) (h : fromBytes b = .ok l)
    (hne : ns' ≠ l.labels) : ({ l with labels := ns' }).toBytes = labelsToBytes ns' :=
  Labels.toBytes_of_labels_ne h hne

/-- `ToBytes` is total: the panic-aware model returns `ok` of the plain one. -/
theorem C19_toBytes_total (l : Labels) : l.toBytesR = .ok l.toBytes := toBytesR_eq l

/-- `ToBytes` never panics, whatever the fields hold. -/
theorem C19_toBytes_no_panic (l : Labels) : l.toBytesR ≠ .panic := by
  rw [toBytesR_eq]; nofun

/-- "www.example.com", the root name and "a" are valid names … -/
example : ValidNames
    [[119, 119, 119, 46, 101, 120, 97, 109, 112, 108, 101, 46, 99, 111, 109], [], [97]] := by decide

/-- … while an empty label ("a..b") or a 64-byte label is not. -/
example : ¬ ValidName [97, 46, 46, 98] := by decide
example : ¬ ValidName (List.replicate 64 97) := by decide

/-- A compressed buffer with an RFC reading: "www" 00, then "a" + pointer to
offset 0, then a partial name "b": names www, a.www, b. -/
example : DecodesTo [3, 119, 119, 119, 0, 1, 97, 192, 0, 1, 98]
    [[119, 119, 119], [97, 46, 119, 119, 119], [98]] :=
  C19_sound _ _ (by decide)

/-- Buffers without a reading (pointer past the end; reserved octet 0x40;
nested pointer) are rejected, not mis-read. -/
example : labelsFromBytes [1, 97, 192, 80, 1, 98, 0] = .err := by decide
example : labelsFromBytes [64, 97] = .err := by decide
example : labelsFromBytes [192, 2, 192, 0] = .err := by decide

/-- `C19_unmodified` / `C19_modified` have satisfiable hypotheses: a
compressed buffer parses, re-emits itself, and after an edit encodes afresh. -/
example : ∃ l, Labels.fromBytes (some [1, 97, 0, 1, 98, 192, 0]) = .ok l ∧
    l.labels = [[97], [98, 46, 97]] ∧
    l.toBytesR = .ok [1, 97, 0, 1, 98, 192, 0] ∧
    ({ l with labels := [[98, 46, 97]] }).toBytesR = .ok [1, 98, 1, 97, 0] :=
  ⟨⟨some [1, 97, 0, 1, 98, 192, 0], [[97], [98, 46, 97]]⟩, by decide, rfl, by decide, by decide⟩

end Dhcp.Label
