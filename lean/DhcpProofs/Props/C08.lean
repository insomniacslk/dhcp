import DhcpProofs.Lemmas.Ownership
/-
  C08 — after decoding, overwriting or reusing the input buffer changes nothing
  observable about the message; bytes returned by an encoder may be modified
  without affecting the message or any later encoding.

  The theorems are about the abstract memory model of `Dhcp/Ownership.lean`;
  the premise "every leaf is owned" / "the top-level encoder returns a fresh
  buffer" is what the regenerated tables `Gen.decodeLeafProvenance` and
  `Gen.topLevelEncodersFresh` (go/ssa provenance analysis of /repo's working
  tree) assert for the code, re-checked in `Facts/Ownership.lean`; the
  `c08` oracle checks the same on the running code with an exact pointer scan.
-/
namespace Dhcp.Props
open Dhcp.Ownership

/-- **C08 (decode side).** If every byte-valued leaf of the decoded object is
owned, then for EVERY overwrite of the input buffer, every observer of the
object — a field, the printed form, the re-encoding, any accessor: an arbitrary
function of the leaves' contents — returns the same result as before. -/
theorem C08_scribble {α : Type} (o : Obj) (h : AllOwned o) (m : Mem) (b' : Bytes) (f : Observer α) :
    observe f (scribble m b') o = observe f m o := by
  unfold observe
  rw [contents_scribble m b' o h]

/-- the same, for any sequence of overwrites (server-style buffer reuse) -/
theorem C08_scribble_many {α : Type} (o : Obj) (h : AllOwned o) (m : Mem) (bs : List Bytes) (f : Observer α) :
    observe f (bs.foldl scribble m) o = observe f m o := by
  induction bs generalizing m with
  | nil => rfl
  | cons b bs ih => simp only [List.foldl_cons]; rw [ih, C08_scribble o h]

/-- **Non-vacuity / necessity.** With a single view leaf there is an overwrite
and an observer (the leaf itself, i.e. a field read) that differ: ownership of
every leaf is what the property needs (exactly so for leaves of non-zero length that
start inside the buffer: `C08_view_observable`). -/
theorem C08_view_counterexample :
    ∃ (o : Obj) (m : Mem) (b' : Bytes) (f : Observer (List Bytes)),
      ¬ AllOwned o ∧ observe f (scribble m b') o ≠ observe f m o :=
  ⟨⟨[.view 0 1]⟩, ⟨[1], fun _ => []⟩, [2], id, by decide, by decide⟩

/-- Any object with a view leaf of non-zero length inside the buffer can be
disturbed: for the leaf-reading observer some overwrite is visible. -/
theorem C08_view_observable (pre post : List Prov) (off len : Nat) (m : Mem)
    (hlen : 0 < len) (hin : off < m.input.length) :
    ∃ b' : Bytes, observe (α := List Bytes) id (scribble m b') ⟨pre ++ .view off len :: post⟩ ≠
      observe id m ⟨pre ++ .view off len :: post⟩ := by
  -- an empty buffer: the window, not empty before, is empty afterwards
  refine ⟨[], fun heq => ?_⟩
  simp only [observe, id, contents, List.map_append, List.map_cons] at heq
  have := congrArg List.length (List.cons.inj (List.append_inj heq (by simp)).2).1
  simp [Ownership.read, scribble] at this
  omega

/-- **C08 (encode side).** If the encoder returned a fresh buffer (no leaf of
the object lives in it), the caller may write anything into it: no leaf changes
(so no field, printed form, accessor changes), and any later encoding by any
encoder returns the same bytes as it would have. -/
theorem C08_encode_fresh {α : Type} (o : Obj) (e : Encoder) (h : Fresh e.out o) (m : Mem) (b' : Bytes) :
    let m₁ := (encode e m o).1
    (∀ f : Observer α, observe f (writeCell m₁ e.out b') o = observe f m o) ∧
    (∀ e₂ : Encoder, (encode e₂ (writeCell m₁ e.out b') o).2 = (encode e₂ m o).2) := by
  have hc : contents (writeCell (encode e m o).1 e.out b') o = contents m o :=
    (contents_writeCell _ _ _ _ h).trans (contents_writeCell m e.out _ o h)
  exact ⟨fun f => congrArg f hc, fun e₂ => congrArg e₂.compute hc⟩

/-- encoding itself does not disturb the object either (the output buffer is fresh) -/
theorem C08_encode_pure {α : Type} (o : Obj) (e : Encoder) (h : Fresh e.out o) (m : Mem) (f : Observer α) :
    observe f (encode e m o).1 o = observe f m o := by
  simp only [observe, encode, contents_writeCell m e.out _ o h]

/-- Non-vacuity for the encode side: an encoder that returns a leaf's own
storage (what `OptionGeneric.ToBytes` does by design — harmless only because the
message-level encoders copy it with `WriteBytes`) lets the caller change the
object and its next encoding. -/
theorem C08_encode_shared_counterexample :
    ∃ (o : Obj) (e : Encoder) (m : Mem) (b' : Bytes),
      ¬ Fresh e.out o ∧ (encode e (writeCell (encode e m o).1 e.out b') o).2 ≠ (encode e m o).2 :=
  ⟨⟨[.owned 0]⟩, ⟨0, fun ls => ls.headD []⟩, ⟨[], fun _ => [7]⟩, [9], by decide, by decide⟩

/-- **Tie to the extracted table.** If the store-site table is sound for an
object (each leaf created at a listed site; OWNED sites create owned leaves)
and every row says OWNED, the object is immune to every overwrite of the input. -/
theorem C08_scribble_of_table {α : Type} (tbl : List (String × Bool)) (ls : List TaggedLeaf)
    (hall : ∀ e ∈ tbl, e.2 = true) (hs : TableSound tbl ls) (m : Mem) (b' : Bytes) (f : Observer α) :
    observe f (scribble m b') ⟨ls.map (·.prov)⟩ = observe f m ⟨ls.map (·.prov)⟩ :=
  C08_scribble _ (allOwned_of_table tbl ls hall hs) m b' f

/-- The hypotheses are satisfiable by a non-trivial object: two owned leaves,
input buffer overwritten, an observer that concatenates everything ("re-encoding"). -/
example : observe (fun ls => ls.flatten) (scribble ⟨[1, 2, 3], fun c => [UInt8.ofNat c]⟩ [9, 9, 9]) ⟨[.owned 4, .owned 5]⟩
    = [4, 5] := by decide

end Dhcp.Props
