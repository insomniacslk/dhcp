import DhcpProofs.Lemmas.V4Parse
import DhcpProofs.Lemmas.V4RoundTrip
/-
  C04 — DHCPv4 decoding accepts exactly well-formed packets and reads the RFC
  values.  `Spec.Parses4` (Dhcp/Spec/Wire4.lean) is the declarative RFC
  2131/2132/3396 grammar; `dec4` is the model of `dhcpv4.FromBytes`.
-/
namespace Dhcp.Props
open Dhcp.V4 Dhcp.Spec

/-- **C04 (soundness).** Whatever the decoder accepts is a well-formed packet
and the decoded value is its RFC reading (fields = wire bytes, hardware address
clipped to min(hlen,16), names cut at the first NUL, each code mapped to the
concatenation of its instances in order of appearance). All byte strings. -/
theorem C04_sound (b : Bytes) (p : Pkt4) (h : dec4 b = .ok p) : Parses4 b p :=
  dec4_sound b p h

/-- **C04 (completeness).** Every well-formed packet is accepted with exactly
its RFC reading. -/
theorem C04_complete (b : Bytes) (p : Pkt4) (h : Parses4 b p) : dec4 b = .ok p :=
  dec4_complete b p h

/-- **C04 (exactness).** Acceptance coincides with well-formedness. -/
theorem C04_exact (b : Bytes) : (∃ p, dec4 b = .ok p) ↔ (∃ p, Parses4 b p) :=
  ⟨fun ⟨p, h⟩ => ⟨p, dec4_sound b p h⟩, fun ⟨p, h⟩ => ⟨p, dec4_complete b p h⟩⟩

/-- **C04 (every other input yields an error, never a panic).** -/
theorem C04_reject (b : Bytes) (h : ¬ ∃ p, Parses4 b p) : dec4 b = .err :=
  (Res.of_ne_panic (dec4_ne_panic b)).resolve_right fun ⟨p, hp⟩ => h ⟨p, dec4_sound b p hp⟩

/-- The RFC reading is unique. -/
theorem C04_functional (b : Bytes) (p q : Pkt4) (hp : Parses4 b p) (hq : Parses4 b q) : p = q :=
  Res.ok.inj ((dec4_complete b p hp).symm.trans (dec4_complete b q hq))

/-- Edge cases as lemmas, not samples: fewer than 240 bytes is rejected … -/
theorem C04_short (b : Bytes) (h : b.length < 240) : dec4 b = .err := dec4_short b h

/-- … a wrong cookie is rejected … -/
theorem C04_cookie (b : Bytes) (h : 240 ≤ b.length) (hc : slice b 236 240 ≠ [99, 130, 83, 99]) :
    dec4 b = .err :=
  (dec4_of_len b h).trans (if_pos hc)

/-- … an empty options area needs no End: exactly 240 bytes with the cookie are
accepted, with no options … -/
theorem C04_bare_header (b : Bytes) (h : b.length = 240) (hc : slice b 236 240 = [99, 130, 83, 99]) :
    ∃ p, dec4 b = .ok p ∧ ∀ c, p.opts.f c = none :=
  ⟨_, (dec4_ok_iff b _).mpr ⟨by omega, hc, Opts.empty, by simp [h, optsFromBytes], rfl⟩, fun _ => rfl⟩

/-- … and bytes after End are ignored: a well-formed run has the shape
`pre ++ End :: tail` and stays well-formed, with the same instances, under any
replacement of `tail`. -/
theorem C04_after_end (a : Bytes) (is : List (UInt8 × Bytes)) (h : RunEnd a is) :
    ∃ pre tail, a = pre ++ 255 :: tail ∧ ∀ tail', RunEnd (pre ++ 255 :: tail') is := by
  induction h with
  | fin tail => exact ⟨[], tail, rfl, fun t => RunEnd.fin t⟩
  | pad _ ih =>
    obtain ⟨pre, tail, h1, h2⟩ := ih
    exact ⟨0 :: pre, tail, by simp [h1], fun t => RunEnd.pad (h2 t)⟩
  | @opt rest is c len v h0 h255 hv _ ih =>
    obtain ⟨pre, tail, h1, h2⟩ := ih
    refine ⟨c :: len :: (v ++ pre), tail, by simp [h1], fun t => ?_⟩
    have := RunEnd.opt c len v h0 h255 hv (h2 t)
    simpa using this

/-- Non-vacuity: the encoding of any encodable packet is a well-formed packet
(so `Parses4` is inhabited by packets with options of any length). -/
example (p : Pkt4) (h : Encodable p) : ∃ b, Parses4 b (norm p) := by
  obtain ⟨b, _, h2⟩ := enc4_dec4 p h
  exact ⟨b, dec4_sound b _ h2⟩

end Dhcp.Props
