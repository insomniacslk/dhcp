import DhcpProofs.Lemmas.RawChecksum
import DhcpProofs.Lemmas.RawRead
import DhcpProofs.Lemmas.RawOptions
/-
  C18 — the raw broadcast connection of nclient4 emits well-formed IPv4+UDP
  frames whose checksums verify, and reads exactly the frames addressed to it.
  Property theorems (and `delivered`, in which the read side is stated); helper lemmas live in
  DhcpProofs/Lemmas/Raw*.lean.
  Model: Dhcp/Raw.lean (what the Go code does).  Specification:
  Dhcp/Spec/Inet.lean (RFC 791 / 768 / 1071, written independently).
-/
namespace Dhcp.Raw
open Dhcp.Spec.Inet

/-- **C18 (layout).** For every payload that fits an IPv4 datagram
(`28 + |p| ≤ 65535`) and every pair of addresses, `udp4pkt` does not panic and
the frame, read field by field as RFC 791 / RFC 768 lay them out, has: version
4, IHL 5 (a 20-byte header), total length `28+|p|` = the frame length, no
fragmentation bits, TTL 64, protocol 17, the `To4` form of the given addresses
(`0.0.0.0` for a nil or non-IPv4 one), the given ports (mod 2^16, as Go's
`uint16(port)`), UDP length `8+|p|`, and the payload verbatim as the UDP data
and as the last `|p|` bytes of the frame. -/
theorem C18_layout (p : Bytes) (dst src : Addr) (hp : 28 + p.length ≤ 65535) :
    ∃ f, udp4pkt p dst src = .ok f ∧ f.length = 28 + p.length ∧
      version f = 4 ∧ ihl f = 5 ∧ hdrLen f = 20 ∧ totalLen f = 28 + p.length ∧ flagsFrag f = 0 ∧
      ttl f = 64 ∧ proto f = 17 ∧
      srcAddr f = (to4 src.ip).getD [0, 0, 0, 0] ∧ dstAddr f = (to4 dst.ip).getD [0, 0, 0, 0] ∧
      srcPort f = src.port % 65536 ∧ dstPort f = dst.port % 65536 ∧
      udpLen f = 8 + p.length ∧ udpData f = p ∧ f.drop 28 = p := by
  obtain ⟨a1, a2, a3, a4, _, a6, _, a8, a9, _, a11, a12⟩ := frameOf_fields p dst src hp
  obtain ⟨b1, b2, b3, _, b5⟩ := frameOf_udp p dst src hp
  exact ⟨_, udp4pkt_eq p dst src, frameOf_length p dst src, a1, a2, a3, a4, a6, a8, a9, a11, a12,
    b1, b2, b3, b5, frameOf_drop p dst src⟩

/-- **C18 (layout, the given addresses and ports).** With 4-byte IPv4 addresses
and 16-bit ports the frame carries exactly them. -/
theorem C18_layout_given (p a b : Bytes) (sp dp : Nat) (hp : 28 + p.length ≤ 65535)
    (ha : a.length = 4) (hb : b.length = 4) (hsp : sp < 65536) (hdp : dp < 65536) :
    ∃ f, udp4pkt p ⟨some b, dp⟩ ⟨some a, sp⟩ = .ok f ∧
      srcAddr f = a ∧ dstAddr f = b ∧ srcPort f = sp ∧ dstPort f = dp := by
  obtain ⟨_, _, _, _, _, _, _, _, _, _, h1, h2⟩ := frameOf_fields p ⟨some b, dp⟩ ⟨some a, sp⟩ hp
  obtain ⟨h3, h4, _⟩ := frameOf_udp p ⟨some b, dp⟩ ⟨some a, sp⟩ hp
  exact ⟨_, udp4pkt_eq _ _ _, h1.trans (hdrAddr_some ha), h2.trans (hdrAddr_some hb),
    h3.trans (Nat.mod_eq_of_lt hsp), h4.trans (Nat.mod_eq_of_lt hdp)⟩

/-- **C18 (IPv4 header checksum).** The header of the emitted frame verifies
under RFC 791 / RFC 1071: the one's-complement sum of its ten words, checksum
field included, is `0xFFFF`. -/
theorem C18_ipck (p : Bytes) (dst src : Addr) (hp : 28 + p.length ≤ 65535) :
    ∃ f, udp4pkt p dst src = .ok f ∧ IPHeaderVerifies f :=
  ⟨frameOf p dst src, udp4pkt_eq p dst src, frameOf_ipck p dst src hp⟩

/-- **C18 (UDP checksum).** For payloads of odd and even length alike, the
one's-complement sum over the RFC 768 pseudo header (addresses, protocol, UDP
length as found in the frame), the UDP header with the transmitted checksum
field, and the data (padded with a zero octet when odd) is `0xFFFF`: the
datagram passes a receiver's check whether or not the receiver treats a zero
field as "no checksum". -/
theorem C18_udpck (p : Bytes) (dst src : Addr) (hp : 28 + p.length ≤ 65535) :
    ∃ f, udp4pkt p dst src = .ok f ∧ UDPSumVerifies f ∧ UDPVerifies f :=
  ⟨frameOf p dst src, udp4pkt_eq p dst src, frameOf_udpck p dst src hp, Or.inr (frameOf_udpck p dst src hp)⟩

/-- **C18 (no wrap-around, proved not assumed).** With a 16-bit initial value
and a buffer shorter than 2^16 bytes the exact integer value of the `uint32`
accumulator of `calculateChecksum` — initial value plus the integer sum of the
buffer's 16-bit words — is below 2^32, so the modelled `uint32` additions never
wrap, and the 16-bit result is congruent to that exact sum mod 65535 and is
zero only if the sum is. -/
theorem C18_accumulator_no_wrap (buf : Bytes) (x : Nat) (hx : x < 65536) (hl : buf.length < 65536) :
    x + wordSum buf < 4294967296 ∧ checksum buf x < 65536 ∧
      checksum buf x % 65535 = (x + wordSum buf) % 65535 ∧ (checksum buf x = 0 ↔ x + wordSum buf = 0) := by
  exact ⟨no_wrap buf x hx (by omega), checksum_rep buf (Rep.self hx) (by omega)⟩

/-- RFC 768's sender rule ("if the computed checksum is zero, it is transmitted
as all ones") as a statement about every emitted frame.  It is FALSE of the
model and of the code, see the counterexample. -/
def C18_udpck_senderrule_full : Prop :=
  ∀ (p : Bytes) (dst src : Addr), 28 + p.length ≤ 65535 → ∀ f, udp4pkt p dst src = .ok f → UDPSenderRule f

/-- What holds instead: the transmitted field is never `0xFFFF`, and it is
`0x0000` exactly when the sum of everything but the field is ≡ 0 mod 65535 —
the case where RFC 768 asks for `0xFFFF`. -/
theorem C18_udpck_senderrule_partial (p : Bytes) (dst src : Addr) (hp : 28 + p.length ≤ 65535) :
    ∃ f, udp4pkt p dst src = .ok f ∧ udpChecksum f ≠ 0xFFFF ∧
      (udpChecksum f = 0 ↔
        ((pseudoWords f).sum + wordSum (ipPayload f) - udpChecksum f) % 65535 = 0) := by
  refine ⟨frameOf p dst src, udp4pkt_eq p dst src, ?_⟩
  obtain ⟨_, _, _, hck, _⟩ := frameOf_udp p dst src hp
  rw [hck, frameOf_pseudo_sum p dst src hp, Nat.add_sub_cancel]
  exact (udp_rep p dst src hp).compl_field (by unfold udpTotal; omega)

/-- A DHCP-shaped witness: a client broadcasting from `0.0.0.0:68` to
`255.255.255.255:67` the two bytes `ff 53` sends a UDP checksum field of
`0x0000`.  (Replayed on the real code: frame
`4500001e0000000040117ad000000000ffffffff00440043000a0000ff53`.) -/
theorem C18_udpck_senderrule_counterexample : ¬ C18_udpck_senderrule_full := by
  intro h
  exact h [0xff, 0x53] ⟨some [255, 255, 255, 255], 67⟩ ⟨none, 68⟩ (by decide) _ (udp4pkt_eq _ _ _) (by decide)

/-- **C18 (write needs a bound address).** `WriteTo` takes the source from the
bound address; with a nil bound address (which `udpMatch` explicitly supports
on the read side) the code dereferences nil. Outside the property's domain;
recorded because the model says so and the stream confirms it. -/
theorem C18_write_unbound_panics (p : Bytes) (dst : Addr) : writeTo none p dst = .panic := rfl

theorem C18_write_no_panic (p : Bytes) (dst src : Addr) : writeTo (some src) p dst ≠ .panic := by
  simp [writeTo, udp4pkt_eq]

/-- **C18 (writes are independent).** For any list of datagrams written
through one bound connection no write panics, there is exactly one frame per
datagram, and the frame of datagram `i` is `udp4pkt` of datagram `i` alone — a
pure function of (payload, destination, bound address): frames of distinct
writes share nothing, so every clause above (layout, checksums, payload
verbatim) holds for each frame whatever the other writers do.  This is a
statement about the model; that the Go code keeps no mutable state shared by
concurrent `WriteTo` calls is checked by the harness (parked-writer scenarios,
race detector) and by the facts `fact_writeTo_stateless`, not proved. -/
theorem C18_write_independent (src : Addr) (ds : List (Bytes × Addr)) :
    ∃ fs, writeAll (some src) ds = .ok fs ∧
      ds.map (fun d => udp4pkt d.1 d.2 src) = fs.map Res.ok :=
  ⟨_, writeAll_eq src ds, by simp [udp4pkt_eq]⟩

/-- what `ReadFrom` owes the caller for a frame: its UDP data cut to the
caller's buffer (Go's `copy`) and the sender -/
def delivered (buflen : Nat) (f : Bytes) : Step :=
  .deliver ((payloadAndSrc f).1.take buflen) (payloadAndSrc f).2.1 (payloadAndSrc f).2.2

/-- **C18 (read, full statement).** For any frame sequence the successive
`ReadFrom` results are, in arrival order, exactly the payload and source of
the well-formed frames addressed to the bound address; every other frame is
skipped silently.  FALSE of the model and of the code for two kinds of frame,
see the counterexamples. -/
def C18_read_exact_full : Prop :=
  ∀ (bound : Option Addr) (buflen : Nat) (fs : List Bytes),
    readFrames bound buflen fs =
      .ok ((fs.filter (fun f => decide (WellFormedForMe f (toSpec bound)))).map (delivered buflen))

/-- **C18 (read, what holds).** The full statement holds for every sequence of
frames none of which is empty or longer than the reader's receive buffer
(`60 + 8 + len(b)` bytes): any IHL 5..15, any trailing padding (ignored), any
total length (it bounds the payload; shorter than header+8 or longer than the
frame → skipped), non-IPv4, non-UDP, truncated, other ports and addresses. -/
theorem C18_read_exact_partial (bound : Option Addr) (buflen : Nat) (fs : List Bytes)
    (h : ∀ f ∈ fs, f ≠ [] ∧ f.length ≤ 60 + 8 + buflen) :
    readFrames bound buflen fs =
      .ok ((fs.filter (fun f => decide (WellFormedForMe f (toSpec bound)))).map (delivered buflen)) :=
  readFrames_clean bound buflen fs h

/-- **C18 (read, exact characterisation for ALL frame sequences).** What the
reader does with a frame depends only on the first `60 + 8 + len(b)` bytes it
receives of it: nothing received → that `ReadFrom` call returns `io.EOF`; a
well-formed prefix addressed to the bound address → delivered; anything else →
skipped. -/
theorem C18_read_characterisation (bound : Option Addr) (buflen : Nat) (fs : List Bytes) :
    readFrames bound buflen fs =
      .ok (fs.filterMap (fun f =>
        let g := f.take (60 + 8 + buflen)
        if g = [] then some Step.eof
        else if WellFormedForMe g (toSpec bound) then some (delivered buflen g)
        else none)) := by
  rw [readFrames_eq]
  apply congrArg
  apply filterMap_congr'
  intro f _
  simp only [specStep, delivered, payloadAndSrc]
  split
  · rfl
  · split <;> rfl

/-- First counterexample: a zero-length frame is not skipped — that `ReadFrom`
call returns `io.EOF` (and `nclient4`'s receive loop then exits). -/
theorem C18_read_exact_counterexample : ¬ C18_read_exact_full := by
  intro h
  have := h none 0 [[]]
  revert this
  decide

/-- Second counterexample: a well-formed frame longer than the receive buffer
is cut by the underlying read, fails `isValid` (total length > bytes read) and
is dropped, where the statement asks for its payload cut to the caller's
buffer.  Witness: 69-byte frame, `len(b) = 0`. -/
theorem C18_read_exact_counterexample_oversize :
    ∃ (bound : Option Addr) (buflen : Nat) (f : Bytes), f ≠ [] ∧
      readFrames bound buflen [f] ≠
        .ok (([f].filter (fun f => decide (WellFormedForMe f (toSpec bound)))).map (delivered buflen)) :=
  ⟨some ⟨none, 68⟩, 0,
    [0x45, 0, 0, 69, 0, 0, 0, 0, 64, 17, 0, 0, 10, 0, 0, 1, 10, 0, 0, 2, 0, 67, 0, 68, 0, 49, 0, 0] ++ zeros 41,
    by decide, by decide⟩

/-- **C18 (the reader never panics).** No frame, and no sequence of frames,
makes `ReadFrom` panic: every index, slice and `Consume` in the loop body is
within bounds (the `Consume` length is never negative). -/
theorem C18_read_no_panic (bound : Option Addr) (buflen : Nat) :
    (∀ f : Bytes, readFrame bound buflen f ≠ .panic) ∧
    (∀ fs : List Bytes, readFrames bound buflen fs ≠ .panic) ∧
    (∀ fs : List Bytes, readFrom bound buflen fs ≠ .panic) := by
  refine ⟨fun f => by simp [readFrame_eq], fun fs => by simp [readFrames_eq], fun fs => ?_⟩
  induction fs with
  | nil => simp [readFrom]
  | cons f rest ih =>
    simp only [readFrom, readFrame_eq]
    cases specStep (toSpec bound) buflen (f.take (60 + 8 + buflen)) <;> simp [ih]

/-- **C18 (write then read).** A frame emitted for a 4-byte destination
address and 16-bit ports is delivered, whole and with its sender, by a reader
bound to that port (with or without the address) whose buffer holds it. -/
theorem C18_write_read (p a b : Bytes) (sp dp buflen : Nat) (hp : 28 + p.length ≤ 65535)
    (ha : a.length = 4) (hb : b.length = 4) (hsp : sp < 65536) (hdp : dp < 65536) (hbuf : p.length ≤ buflen)
    (bip : GoIP) (hbip : bip = none ∨ bip = some b) :
    ∃ f, udp4pkt p ⟨some b, dp⟩ ⟨some a, sp⟩ = .ok f ∧
      readFrames (some ⟨bip, dp⟩) buflen [f] = .ok [Step.deliver p a sp] := by
  obtain ⟨_, _, _, _, _, _, _, _, _, _, hsrc, hdst⟩ := frameOf_fields p ⟨some b, dp⟩ ⟨some a, sp⟩ hp
  obtain ⟨hsp', hdp', _, _, hdata⟩ := frameOf_udp p ⟨some b, dp⟩ ⟨some a, sp⟩ hp
  have hlen := frameOf_length p ⟨some b, dp⟩ ⟨some a, sp⟩
  replace hdp' := hdp'.trans (Nat.mod_eq_of_lt hdp)
  have hwf : WellFormedForMe (frameOf p ⟨some b, dp⟩ ⟨some a, sp⟩) (toSpec (some ⟨bip, dp⟩)) := by
    refine ⟨frameOf_wellFormed _ _ _ hp, ?_⟩
    rcases hbip with rfl | rfl
    · exact hdp'
    · exact ⟨hdp', .inl (hdst.trans (hdrAddr_some hb)).symm⟩
  refine ⟨_, udp4pkt_eq _ _ _, ?_⟩
  rw [readFrames_clean _ _ _ (by
    intro x hx
    rw [List.mem_singleton.mp hx]
    exact ⟨List.ne_nil_of_length_pos (by omega), by omega⟩)]
  simp only [List.filter_cons, List.filter_nil, decide_eq_true hwf, if_true, List.map_cons, List.map_nil, hdata,
    hsrc.trans (hdrAddr_some ha), hsp'.trans (Nat.mod_eq_of_lt hsp), List.take_of_length_le hbuf]

/-- the hypotheses of the write theorems hold for a 300-byte payload of `0xff`
(every word carries) and for an odd-length one -/
example : 28 + (List.replicate 300 (0xff : UInt8)).length ≤ 65535 ∧ 28 + ([1, 2, 3] : Bytes).length ≤ 65535 :=
  ⟨by rw [List.length_replicate]; omega, by decide⟩

/-- the hypothesis of `C18_read_exact_partial` holds for a sequence mixing a
frame with IP options and trailing padding that is delivered, a frame for
another port, and garbage; and the first one is well-formed for the reader -/
example :
    let f1 : Bytes := [0x46, 0, 0, 34, 0, 0, 0, 0, 64, 17, 0, 0, 10, 0, 0, 1, 10, 0, 0, 2, 1, 1, 1, 0,
      0, 67, 0, 68, 0, 10, 0, 0, 0xab, 0xcd, 0, 0, 0]
    let f2 : Bytes := [0x45, 0, 0, 28, 0, 0, 0, 0, 64, 17, 0, 0, 10, 0, 0, 1, 10, 0, 0, 2, 0, 67, 0, 69, 0, 8, 0, 0]
    (∀ f ∈ [f1, f2, [1, 2, 3]], f ≠ [] ∧ f.length ≤ 60 + 8 + 576) ∧
      WellFormedForMe f1 (toSpec (some ⟨some [10, 0, 0, 2], 68⟩)) ∧
      readFrames (some ⟨some [10, 0, 0, 2], 68⟩) 576 [f1, f2, [1, 2, 3]] =
        .ok [Step.deliver [0xab, 0xcd] [10, 0, 0, 1] 67] := by
  decide

/-- **C18 (read: IPv4 options are no criterion).** Two frames that differ only in the
octets of their IPv4 options - same fixed header `h` (20 octets, IHL = 5 + options/4),
options of the same length, same rest, short enough for the receive buffer (`hfit`) -
get the same treatment: both skipped, or both
delivered with the same payload, source address and source port.  A reader that looks
INTO the options (to drop source-routed datagrams, say) is not this reader. -/
theorem C18_read_options_irrelevant (bound : Option Addr) (buflen : Nat) (h o o' rest : Bytes)
    (hh : h.length = 20) (ho : o'.length = o.length) (hl : 4 * (byteAt h 0 % 16) = 20 + o.length)
    (hfit : 20 + o.length + rest.length ≤ 60 + 8 + buflen) :
    readFrames bound buflen [h ++ (o ++ rest)] = readFrames bound buflen [h ++ (o' ++ rest)] := by
  have hne : ∀ x : Bytes, h ++ (x ++ rest) = [] ↔ False := fun x =>
    ⟨fun hx => by simpa [hh] using congrArg List.length hx, False.elim⟩
  rw [readFrames_eq, readFrames_eq]
  simp only [List.filterMap_cons, List.filterMap_nil]
  rw [List.take_of_length_le (by simp [hh]; omega), List.take_of_length_le (by simp [hh, ho]; omega),
    specStep_congr (by rw [hne, hne]) (options_irrelevant h o o' rest hh ho hl (toSpec bound))]

/-- hypothesis `hl` is satisfiable: a fixed header with IHL 7 and 8 option octets (a loose
source route; the other frame would carry 8 no-operation octets instead). -/
example : 4 * (byteAt ([0x47, 0, 0, 44, 0, 0, 0, 0, 64, 17, 0, 0, 10, 0, 0, 1, 10, 0, 0, 2] : Bytes) 0 % 16) = 20 + ([131, 7, 4, 192, 0, 2, 254, 0] : Bytes).length := by
  decide
end Dhcp.Raw
