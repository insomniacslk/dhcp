import Dhcp.Server
import DhcpProofs.Lemmas.Server
import DhcpProofs.Lemmas.V6NoPanic
/-
  C14 — the servers dispatch each decodable datagram exactly once and survive
  bad ones.  Property theorems (and `SocketPeers`, the hypothesis of the DHCPv4 ones);
  helper lemmas live in DhcpProofs/Lemmas/Server.lean.

  `serve4 = serve decode4 peer4` is the model of `(*server4.Server).Serve`
  with `decode4` = the model of `dhcpv4.FromBytes`; `serve6 dec6 = serve dec6
  peer6` is the model of `(*server6.Server).Serve`: every `…6` theorem holds
  for EVERY decoder `dec6`, and the `…6_dec6` theorems instantiate them with
  `serve6dec = serve6 decode6`, `decode6` = the model of `dhcpv6.FromBytes`
  (`Dhcp.V6.dec6`, which never panics: `C14_no_panic6`).  Sequences of read
  results have any length.

  `SocketPeers rs`: no read returns an interface holding a nil
  `*net.UDPAddr` (no socket does; server4 would dereference it — see
  `C14_panic4_nilptr`).  DHCPv6 needs no such hypothesis.
-/
namespace Dhcp.Server
open List

/-- the reads come from a socket: no sender address is a nil `*net.UDPAddr` -/
def SocketPeers (rs : List ReadResult) : Prop := ∀ b, ReadResult.datagram b .udpNilPtr ∉ rs

/-- **C14 (exactness, v4).** The handler invocations are, in order, the
decodings of the datagrams read before the first failed read, each with its
own (rewritten) sender: one per datagram that decodes and comes from a UDP
sender, none for the others. -/
theorem C14_exact4 (rs : List ReadResult) (h : SocketPeers rs) :
    (serve4 rs).invocations =
      ((rs.takeWhile ReadResult.isDatagram).zipIdx).filterMap (fun x =>
        match x.1 with
        | .datagram b p =>
          (decode4 (b.take readBufLen)).bind (fun m =>
            (peer4 p).toOption.map (fun q => (⟨x.2, m, q⟩ : Invocation V4.Pkt4)))
        | .readError => none) := by
  rw [serve4, serve, serveFrom_eq _ _ 0 rs (peer4_noPanic _ rs h)]
  refine congrArg (filterMap · _) (funext fun x => ?_)
  cases x.1 with
  | readError => rfl
  | datagram b p =>
    simp only [handlerCall]
    cases decode4 (b.take readBufLen) <;> simp only [Option.bind]
    cases peer4 p <;> rfl

/-- **C14 (never for an undecodable datagram, v4).** Every invocation points at
a datagram of the sequence that `FromBytes` accepts, carries exactly that
decoding, and the sender that the peer rule makes of that datagram's sender. -/
theorem C14_never_undecodable4 (rs : List ReadResult) (v : Invocation V4.Pkt4)
    (hv : v ∈ (serve4 rs).invocations) :
    ∃ b p, rs[v.idx]? = some (.datagram b p) ∧ V4.dec4 (b.take readBufLen) = .ok v.msg ∧
      peer4 p = .ok v.peer := by
  obtain ⟨b, p, h1, h2, h3⟩ := serve_mem decode4 peer4 rs v hv
  exact ⟨b, p, h1, Res.toOption_eq_some.mp h2, h3⟩

/-- the same, read the other way: a datagram that does not decode is never dispatched -/
theorem C14_undecodable_never_dispatched4 (rs : List ReadResult) (i : Nat) (b : Bytes) (p : Peer)
    (hi : rs[i]? = some (.datagram b p)) (hd : V4.dec4 (b.take readBufLen) = .err) :
    ∀ v ∈ (serve4 rs).invocations, v.idx ≠ i := by
  intro v hv e
  obtain ⟨b', p', h1, h2, _⟩ := C14_never_undecodable4 rs v hv
  rw [e, hi] at h1
  cases h1
  rw [hd] at h2
  cases h2

/-- **C14 (exactly once, v4).** A datagram read before the first failed read
that decodes to `m` and whose sender the peer rule maps to `q` is dispatched
exactly once, as `(m, q)`. -/
theorem C14_exactly_once4 (rs : List ReadResult) (h : SocketPeers rs) (i : Nat) (b : Bytes)
    (p q : Peer) (m : V4.Pkt4) (hi : rs[i]? = some (.datagram b p))
    (hlive : i < (rs.takeWhile ReadResult.isDatagram).length)
    (hd : V4.dec4 (b.take readBufLen) = .ok m) (hp : peer4 p = .ok q) :
    (serve4 rs).invocations.filter (fun v => v.idx == i) = [⟨i, m, q⟩] := by
  rw [serve4, serve_filter_idx decode4 peer4 rs (peer4_noPanic _ rs h) i _ hi hlive]
  simp [handlerCall, decode4, hd, hp, Res.toOption]

/-- **C14 (a malformed datagram does not stop the loop, v4).** Inserting a
datagram that does not decode anywhere in the sequence changes neither what
the handler is called with nor how `Serve` ends. -/
theorem C14_malformed_continues4 (a c : List ReadResult) (b : Bytes) (p : Peer)
    (hd : V4.dec4 (b.take readBufLen) = .err) :
    (serve4 (a ++ .datagram b p :: c)).calls = (serve4 (a ++ c)).calls ∧
      (serve4 (a ++ .datagram b p :: c)).exit = (serve4 (a ++ c)).exit :=
  serveFrom_skip decode4 peer4 0 a c _ (by simp [step, decode4, hd, Res.toOption])

/-- **C14 (exit, v4).** `Serve` returns exactly when some read fails;
otherwise it is still waiting for the next datagram. -/
theorem C14_exit4 (rs : List ReadResult) (h : SocketPeers rs) :
    ((serve4 rs).exit = .returned ↔ .readError ∈ rs) ∧
      ((serve4 rs).exit = .blocked ↔ .readError ∉ rs) :=
  let t := serveFrom_exit decode4 peer4 0 rs (peer4_noPanic _ rs h)
  ⟨t.1, t.2.1⟩

/-- nothing read after the first failed read is processed (v4) -/
theorem C14_exit_stops4 (a b : List ReadResult) :
    serve4 (a ++ .readError :: b) = serve4 (a ++ [.readError]) :=
  serveFrom_readError decode4 peer4 0 a b []

/-- **C14 (peer rule, v4).** A sender without IP address (nil) or with
0.0.0.0 (4-byte or IPv4-mapped form) becomes 255.255.255.255 with the sender's
port; every other UDP sender is passed on unchanged; a non-UDP sender address
gets no invocation. -/
theorem C14_peer4 (port : Nat) (zone : Bytes) :
    peer4 (.udp none port zone) = .ok (.udp (some ipv4bcast) port []) ∧
    (∀ ip, (ip = [0, 0, 0, 0] ∨ ip = [0, 0, 0, 0, 0, 0, 0, 0, 0, 0, 255, 255, 0, 0, 0, 0]) →
      peer4 (.udp (some ip) port zone) = .ok (.udp (some ipv4bcast) port [])) ∧
    (∀ ip, ¬ (ip = [0, 0, 0, 0] ∨ ip = [0, 0, 0, 0, 0, 0, 0, 0, 0, 0, 255, 255, 0, 0, 0, 0]) →
      peer4 (.udp (some ip) port zone) = .ok (.udp (some ip) port zone)) ∧
    (∀ id, peer4 (.other id) = .err) ∧ peer4 .nilAddr = .err ∧
    ipv4bcast = [0, 0, 0, 0, 0, 0, 0, 0, 0, 0, 255, 255, 255, 255, 255, 255] := by
  refine ⟨rfl, fun ip h => ?_, fun ip h => ?_, fun _ => rfl, rfl, rfl⟩
  · simp [peer4, (isZero4_iff ip).mpr h]
  · simp [peer4, mt (isZero4_iff ip).mp h]

/-- **C14 (independence, v4).** There is ONE function of a read result and
its position such that, for every sequence, the invocations for position `i`
are that function of the `i`-th read result alone — whatever was read before
or after it. -/
theorem C14_independent4 :
    ∃ f : ReadResult → Nat → Option (Invocation V4.Pkt4),
      ∀ (rs : List ReadResult), SocketPeers rs → ∀ (i : Nat) (r : ReadResult),
        rs[i]? = some r → i < (rs.takeWhile ReadResult.isDatagram).length →
        (serve4 rs).invocations.filter (fun v => v.idx == i) = (f r i).toList :=
  ⟨handlerCall decode4 peer4, fun rs h => serve_filter_idx decode4 peer4 rs (peer4_noPanic _ rs h)⟩

/-- The guard is stated, not hidden: a decodable datagram whose sender address
is a nil `*net.UDPAddr` makes server4's loop panic (outside the property's
domain: no socket returns such an address). -/
theorem C14_panic4_nilptr (b : Bytes) (m : V4.Pkt4) (rest : List ReadResult)
    (hd : V4.dec4 (b.take readBufLen) = .ok m) :
    (serve4 (.datagram b .udpNilPtr :: rest)).exit = .panicked := by
  simp [serve4, serve, serveFrom, step, decode4, hd, Res.toOption, peer4]

section
variable {α : Type} (dec6 : Bytes → Option α)

/-- **C14 (exactness, v6).** -/
theorem C14_exact6 (rs : List ReadResult) :
    (serve6 dec6 rs).invocations =
      ((rs.takeWhile ReadResult.isDatagram).zipIdx).filterMap (fun x =>
        match x.1 with
        | .datagram b p => (dec6 (b.take readBufLen)).map (fun m => (⟨x.2, m, p⟩ : Invocation α))
        | .readError => none) := by
  rw [serve6, serve, serveFrom_eq _ _ 0 rs (peer6_noPanic _ rs)]
  refine congrArg (filterMap · _) (funext fun x => ?_)
  cases x.1 with
  | readError => rfl
  | datagram b p =>
    simp only [handlerCall, peer6]
    cases dec6 (b.take readBufLen) <;> rfl

/-- **C14 (never for an undecodable datagram; sender unchanged, v6).** -/
theorem C14_never_undecodable6 (rs : List ReadResult) (v : Invocation α)
    (hv : v ∈ (serve6 dec6 rs).invocations) :
    ∃ b, rs[v.idx]? = some (.datagram b v.peer) ∧ dec6 (b.take readBufLen) = some v.msg := by
  obtain ⟨b, p, h1, h2, h3⟩ := serve_mem dec6 peer6 rs v hv
  cases h3
  exact ⟨b, h1, h2⟩

/-- **C14 (exactly once, v6).** -/
theorem C14_exactly_once6 (rs : List ReadResult) (i : Nat) (b : Bytes) (p : Peer) (m : α)
    (hi : rs[i]? = some (.datagram b p))
    (hlive : i < (rs.takeWhile ReadResult.isDatagram).length)
    (hd : dec6 (b.take readBufLen) = some m) :
    (serve6 dec6 rs).invocations.filter (fun v => v.idx == i) = [⟨i, m, p⟩] := by
  rw [serve6, serve_filter_idx dec6 peer6 rs (peer6_noPanic _ rs) i _ hi hlive]
  simp [handlerCall, hd, peer6]

/-- **C14 (a malformed datagram does not stop the loop, v6).** -/
theorem C14_malformed_continues6 (a c : List ReadResult) (b : Bytes) (p : Peer)
    (hd : dec6 (b.take readBufLen) = none) :
    (serve6 dec6 (a ++ .datagram b p :: c)).calls = (serve6 dec6 (a ++ c)).calls ∧
      (serve6 dec6 (a ++ .datagram b p :: c)).exit = (serve6 dec6 (a ++ c)).exit :=
  serveFrom_skip dec6 peer6 0 a c _ (by simp [step, hd])

/-- **C14 (exit, v6).** -/
theorem C14_exit6 (rs : List ReadResult) :
    ((serve6 dec6 rs).exit = .returned ↔ .readError ∈ rs) ∧
      ((serve6 dec6 rs).exit = .blocked ↔ .readError ∉ rs) :=
  let t := serveFrom_exit dec6 peer6 0 rs (peer6_noPanic _ rs)
  ⟨t.1, t.2.1⟩

theorem C14_exit_stops6 (a b : List ReadResult) :
    serve6 dec6 (a ++ .readError :: b) = serve6 dec6 (a ++ [.readError]) :=
  serveFrom_readError dec6 peer6 0 a b []

/-- **C14 (independence, v6).** -/
theorem C14_independent6 :
    ∃ f : ReadResult → Nat → Option (Invocation α),
      ∀ (rs : List ReadResult) (i : Nat) (r : ReadResult),
        rs[i]? = some r → i < (rs.takeWhile ReadResult.isDatagram).length →
        (serve6 dec6 rs).invocations.filter (fun v => v.idx == i) = (f r i).toList :=
  ⟨handlerCall dec6 peer6, fun rs => serve_filter_idx dec6 peer6 rs (peer6_noPanic _ rs)⟩
end

/-- `dhcpv6.FromBytes` (model) returns a message or an error, never `panic`, and
the peer rule of server6 cannot panic either: the DHCPv6 loop never panics,
whatever is read from whatever sender address. -/
theorem C14_no_panic6 (rs : List ReadResult) :
    (∀ b, V6.dec6 b ≠ .panic) ∧ (serve6dec rs).exit ≠ .panicked :=
  ⟨V6.dec6_ne_panic, (serveFrom_exit decode6 peer6 0 rs (peer6_noPanic _ rs)).2.2⟩

/-- **C14 (exactness, v6, `dec6`).** -/
theorem C14_exact6_dec6 (rs : List ReadResult) :
    (serve6dec rs).invocations =
      ((rs.takeWhile ReadResult.isDatagram).zipIdx).filterMap (fun x =>
        match x.1 with
        | .datagram b p =>
          (V6.dec6 (b.take readBufLen)).toOption.map (fun m => (⟨x.2, m, p⟩ : Invocation V6.Msg6))
        | .readError => none) :=
  C14_exact6 decode6 rs

/-- **C14 (never for an undecodable datagram; message = its decoding; sender unchanged, v6, `dec6`).** -/
theorem C14_never_undecodable6_dec6 (rs : List ReadResult) (v : Invocation V6.Msg6)
    (hv : v ∈ (serve6dec rs).invocations) :
    ∃ b, rs[v.idx]? = some (.datagram b v.peer) ∧ V6.dec6 (b.take readBufLen) = .ok v.msg := by
  obtain ⟨b, h1, h2⟩ := C14_never_undecodable6 decode6 rs v hv
  exact ⟨b, h1, Res.toOption_eq_some.mp h2⟩

/-- a datagram that `dec6` rejects is never dispatched -/
theorem C14_undecodable_never_dispatched6_dec6 (rs : List ReadResult) (i : Nat) (b : Bytes) (p : Peer)
    (hi : rs[i]? = some (.datagram b p)) (hd : V6.dec6 (b.take readBufLen) = .err) :
    ∀ v ∈ (serve6dec rs).invocations, v.idx ≠ i := by
  intro v hv e
  obtain ⟨b', h1, h2⟩ := C14_never_undecodable6_dec6 rs v hv
  rw [e, hi] at h1
  cases h1
  rw [hd] at h2
  cases h2

/-- **C14 (exactly once, v6, `dec6`).** -/
theorem C14_exactly_once6_dec6 (rs : List ReadResult) (i : Nat) (b : Bytes) (p : Peer) (m : V6.Msg6)
    (hi : rs[i]? = some (.datagram b p))
    (hlive : i < (rs.takeWhile ReadResult.isDatagram).length)
    (hd : V6.dec6 (b.take readBufLen) = .ok m) :
    (serve6dec rs).invocations.filter (fun v => v.idx == i) = [⟨i, m, p⟩] :=
  C14_exactly_once6 decode6 rs i b p m hi hlive (Res.toOption_eq_some.mpr hd)

/-- **C14 (a malformed datagram does not stop the loop, v6, `dec6`).** -/
theorem C14_malformed_continues6_dec6 (a c : List ReadResult) (b : Bytes) (p : Peer)
    (hd : V6.dec6 (b.take readBufLen) = .err) :
    (serve6dec (a ++ .datagram b p :: c)).calls = (serve6dec (a ++ c)).calls ∧
      (serve6dec (a ++ .datagram b p :: c)).exit = (serve6dec (a ++ c)).exit :=
  C14_malformed_continues6 decode6 a c b p (by simp [decode6, hd, Res.toOption])

/-- **C14 (exit, v6, `dec6`).** -/
theorem C14_exit6_dec6 (rs : List ReadResult) :
    ((serve6dec rs).exit = .returned ↔ .readError ∈ rs) ∧
      ((serve6dec rs).exit = .blocked ↔ .readError ∉ rs) :=
  C14_exit6 decode6 rs

theorem C14_exit_stops6_dec6 (a b : List ReadResult) :
    serve6dec (a ++ .readError :: b) = serve6dec (a ++ [.readError]) :=
  C14_exit_stops6 decode6 a b

/-- **C14 (independence, v6, `dec6`).** -/
theorem C14_independent6_dec6 :
    ∃ f : ReadResult → Nat → Option (Invocation V6.Msg6),
      ∀ (rs : List ReadResult) (i : Nat) (r : ReadResult),
        rs[i]? = some r → i < (rs.takeWhile ReadResult.isDatagram).length →
        (serve6dec rs).invocations.filter (fun v => v.idx == i) = (f r i).toList :=
  C14_independent6 decode6

/-! ## Histories compared: non-interference and monotonicity

Two histories `a ++ r :: c` and `a ++ r' :: c` that differ in the read at
position `|a|` only, and a history `a` compared with its extension `a ++ b`.
`a`, `b`, `c` are arbitrary (any length, read errors and — for DHCPv4 — even
nil `*net.UDPAddr` senders allowed in them: no `SocketPeers` hypothesis).
What this says and does not say: the MODEL hands each handler a value computed
from its own datagram's first 4096 bytes and sender only, and never revises
what it has handed out.  That the Go values handed out share no memory with
the read buffer or with each other (C08), and in which order the handler
goroutines run, is outside the fold model (checked on the code: blocking
handlers, scribbling connection, race detector). -/

/-- **C14 (non-interference, v4).**
(i) Nothing before position `|a|` depends on what is read at `|a|` or later —
whatever `r`, `r'` are (a datagram turned into a read error or vice versa
included): the invocations with a smaller index are those of the history `a`.
(ii) If both variants are datagrams from socket senders, every invocation
other than the one for position `|a|` is the same in both runs, and `Serve`
ends the same way: changing datagram `|a|` changes at most invocation `|a|`.
(iii) Two datagrams with the same first 4096 bytes and the same sender are
indistinguishable: the whole outcome is the same. -/
theorem C14_noninterference4 (a c : List ReadResult) (r r' : ReadResult) :
    ((serve4 (a ++ r :: c)).invocations.filter (fun v => decide (v.idx < a.length)) = (serve4 a).invocations ∧
     (serve4 (a ++ r' :: c)).invocations.filter (fun v => decide (v.idx < a.length)) = (serve4 a).invocations) ∧
    (∀ b p b' p', r = .datagram b p → r' = .datagram b' p' → p ≠ .udpNilPtr → p' ≠ .udpNilPtr →
      (serve4 (a ++ r :: c)).invocations.filter (fun v => v.idx != a.length) =
        (serve4 (a ++ r' :: c)).invocations.filter (fun v => v.idx != a.length) ∧
      (serve4 (a ++ r :: c)).exit = (serve4 (a ++ r' :: c)).exit) ∧
    (∀ b b' p, r = .datagram b p → r' = .datagram b' p → b.take readBufLen = b'.take readBufLen →
      serve4 (a ++ r :: c) = serve4 (a ++ r' :: c)) := by
  refine ⟨⟨serve_before _ _ a _, serve_before _ _ a _⟩, ?_, ?_⟩
  · rintro b p b' p' rfl rfl hp hp'
    exact serve_nonint _ _ a c _ _
      (step_datagram_ne_stop _ _ (step_ne_panicked _ (peer4_ne_panic hp) b))
      (step_datagram_ne_stop _ _ (step_ne_panicked _ (peer4_ne_panic hp') b'))
  · rintro b b' p rfl rfl h
    exact serve_congr_step _ _ a c _ _ (step_take _ _ b b' p h)

/-- **C14 (monotonicity, v4).** The invocations of a prefix of the history are
a prefix of the invocations of the history: what a handler has been handed
never changes when more datagrams arrive, more reads only ADD invocations, for
the new positions only; and once `Serve` has ended nothing is added at all. -/
theorem C14_prefix4 (a b : List ReadResult) :
    (serve4 a).invocations <+: (serve4 (a ++ b)).invocations ∧
    (serve4 (a ++ b)).invocations.filter (fun v => decide (v.idx < a.length)) = (serve4 a).invocations ∧
    ((serve4 a).exit ≠ .blocked → serve4 (a ++ b) = serve4 a) :=
  serve_prefix decode4 peer4 a b

section
variable {α : Type} (dec6 : Bytes → Option α)

/-- **C14 (non-interference, v6, every decoder).** As `C14_noninterference4`;
no condition on the senders (server6 never looks at them). -/
theorem C14_noninterference6 (a c : List ReadResult) (r r' : ReadResult) :
    ((serve6 dec6 (a ++ r :: c)).invocations.filter (fun v => decide (v.idx < a.length)) =
        (serve6 dec6 a).invocations ∧
     (serve6 dec6 (a ++ r' :: c)).invocations.filter (fun v => decide (v.idx < a.length)) =
        (serve6 dec6 a).invocations) ∧
    (r.isDatagram = true → r'.isDatagram = true →
      (serve6 dec6 (a ++ r :: c)).invocations.filter (fun v => v.idx != a.length) =
        (serve6 dec6 (a ++ r' :: c)).invocations.filter (fun v => v.idx != a.length) ∧
      (serve6 dec6 (a ++ r :: c)).exit = (serve6 dec6 (a ++ r' :: c)).exit) ∧
    (∀ b b' p, r = .datagram b p → r' = .datagram b' p → b.take readBufLen = b'.take readBufLen →
      serve6 dec6 (a ++ r :: c) = serve6 dec6 (a ++ r' :: c)) := by
  refine ⟨⟨serve_before _ _ a _, serve_before _ _ a _⟩, ?_, ?_⟩
  · intro hr hr'
    cases r with
    | readError => cases hr
    | datagram b p =>
      cases r' with
      | readError => cases hr'
      | datagram b' p' =>
        exact serve_nonint _ _ a c _ _ (step_datagram_ne_stop _ _ (step_ne_panicked _ (peer6_ne_panic p) b))
          (step_datagram_ne_stop _ _ (step_ne_panicked _ (peer6_ne_panic p') b'))
  · rintro b b' p rfl rfl h
    exact serve_congr_step _ _ a c _ _ (step_take _ _ b b' p h)

/-- **C14 (monotonicity, v6, every decoder).** -/
theorem C14_prefix6 (a b : List ReadResult) :
    (serve6 dec6 a).invocations <+: (serve6 dec6 (a ++ b)).invocations ∧
    (serve6 dec6 (a ++ b)).invocations.filter (fun v => decide (v.idx < a.length)) =
      (serve6 dec6 a).invocations ∧
    ((serve6 dec6 a).exit ≠ .blocked → serve6 dec6 (a ++ b) = serve6 dec6 a) :=
  serve_prefix dec6 peer6 a b
end

/-- **C14 (non-interference, v6, `dec6`).** -/
theorem C14_noninterference6_dec6 (a c : List ReadResult) (r r' : ReadResult) :
    ((serve6dec (a ++ r :: c)).invocations.filter (fun v => decide (v.idx < a.length)) =
        (serve6dec a).invocations ∧
     (serve6dec (a ++ r' :: c)).invocations.filter (fun v => decide (v.idx < a.length)) =
        (serve6dec a).invocations) ∧
    (r.isDatagram = true → r'.isDatagram = true →
      (serve6dec (a ++ r :: c)).invocations.filter (fun v => v.idx != a.length) =
        (serve6dec (a ++ r' :: c)).invocations.filter (fun v => v.idx != a.length) ∧
      (serve6dec (a ++ r :: c)).exit = (serve6dec (a ++ r' :: c)).exit) ∧
    (∀ b b' p, r = .datagram b p → r' = .datagram b' p → b.take readBufLen = b'.take readBufLen →
      serve6dec (a ++ r :: c) = serve6dec (a ++ r' :: c)) :=
  C14_noninterference6 decode6 a c r r'

/-- **C14 (monotonicity, v6, `dec6`).** -/
theorem C14_prefix6_dec6 (a b : List ReadResult) :
    (serve6dec a).invocations <+: (serve6dec (a ++ b)).invocations ∧
    (serve6dec (a ++ b)).invocations.filter (fun v => decide (v.idx < a.length)) = (serve6dec a).invocations ∧
    ((serve6dec a).exit ≠ .blocked → serve6dec (a ++ b) = serve6dec a) :=
  C14_prefix6 decode6 a b

/-- a minimal BOOTP header + cookie + End: accepted by the `FromBytes` model -/
def sampleDatagram : Bytes := [1, 1, 6, 0] ++ zeros 232 ++ V4.magicCookie ++ [255]

set_option maxRecDepth 8000 in
example : (decode4 (sampleDatagram.take readBufLen)).isSome = true := by decide
example : (decode4 (([1, 2, 3] : Bytes).take readBufLen)).isNone = true := by decide

set_option maxRecDepth 16000 in
/-- a run with an address-less sender, an undecodable datagram, an ordinary
sender, a non-UDP sender, an empty read, then a failed read and a datagram
that is never looked at: positions 0 and 2 are dispatched, 0 to the broadcast
address with the sender's port; `Serve` returns. -/
example :
    let rs : List ReadResult :=
      [.datagram sampleDatagram (.udp none 68 []), .datagram [1, 2, 3] (.udp (some [10, 0, 0, 1]) 68 []),
       .datagram sampleDatagram (.udp (some [10, 0, 0, 2]) 67 []), .datagram sampleDatagram (.other 7),
       .datagram [] (.udp (some [10, 0, 0, 3]) 68 []), .readError,
       .datagram sampleDatagram (.udp (some [10, 0, 0, 4]) 68 [])]
    SocketPeers rs ∧ (rs.takeWhile ReadResult.isDatagram).length = 5 ∧
    (serve4 rs).invocations.map (fun v => (v.idx, v.peer)) =
      [(0, .udp (some ipv4bcast) 68 []), (2, .udp (some [10, 0, 0, 2]) 67 [])] ∧
    (serve4 rs).exit = .returned := by
  refine ⟨?_, by decide, by decide, by decide⟩
  intro b hb
  simp at hb

/-- DHCPv6 with a toy decoder (accept ≥ 4 bytes): the sender — a non-UDP address, a
`*net.UDPAddr` without IP — reaches the handler untouched; the 1-byte datagram is skipped. -/
example :
    let dec6 : Bytes → Option Bytes := fun b => if b.length ≥ 4 then some b else none
    let o := serve6 dec6 [.datagram [1, 0, 0, 1] (.other 3), .datagram [1] .nilAddr,
      .datagram [3, 0, 0, 2, 0] (.udp none 546 []), .readError]
    o.invocations.map (fun v => (v.idx, v.msg, v.peer)) =
      [(0, [1, 0, 0, 1], .other 3), (2, [3, 0, 0, 2, 0], .udp none 546 [])] ∧ o.exit = .returned := by
  decide

/-- DHCPv6 with the codec model: a SOLICIT with a client-id option (accepted by `dec6`)
from a link-local sender, a 2-byte datagram (rejected), the SOLICIT again from a non-UDP
sender, then Close: positions 0 and 2 are dispatched with their senders untouched. -/
example :
    let sol : Bytes := [1, 0xaa, 0xbb, 0xcc, 0, 1, 0, 10, 0, 3, 0, 1, 0, 0x11, 0x22, 0x33, 0x44, 0x55]
    let ll : Peer := .udp (some ([0xfe, 0x80] ++ zeros 13 ++ [10])) 546 [101, 116, 104, 48]
    let rs : List ReadResult := [.datagram sol ll, .datagram [1, 2] ll, .datagram sol (.other 9), .readError]
    (decode6 (sol.take readBufLen)).isSome = true ∧ (decode6 (([1, 2] : Bytes).take readBufLen)).isNone = true ∧
    (serve6dec rs).invocations.map (fun v => (v.idx, v.peer)) = [(0, ll), (2, .other 9)] ∧
    (serve6dec rs).exit = .returned := by
  refine ⟨by decide, by decide, by decide, by decide⟩

set_option maxRecDepth 16000 in
/-- v4: position 1 holds a decodable datagram in one history, an undecodable
one in the second, a failed read in the third; positions 0, 2 and the final
failed read are common.  Invocation 0 is the same in all three; invocation 2
and the exit are the same in the two histories where position 1 is a datagram;
the read error at 1 ends the loop there (nothing after it, still nothing
before it changes). -/
example :
    let p (k : UInt8) : Peer := .udp (some [10, 0, 0, k]) 68 []
    let a : List ReadResult := [.datagram sampleDatagram (p 1)]
    let c : List ReadResult := [.datagram sampleDatagram (p 3), .readError]
    (serve4 (a ++ .datagram sampleDatagram (p 2) :: c)).invocations.map (fun v => (v.idx, v.peer)) =
      [(0, p 1), (1, p 2), (2, p 3)] ∧
    (serve4 (a ++ .datagram [1, 2, 3] (p 2) :: c)).invocations.map (fun v => (v.idx, v.peer)) =
      [(0, p 1), (2, p 3)] ∧
    (serve4 (a ++ .readError :: c)).invocations.map (fun v => (v.idx, v.peer)) = [(0, p 1)] ∧
    (serve4 (a ++ .datagram sampleDatagram (p 2) :: c)).exit = .returned ∧
    (serve4 (a ++ .datagram [1, 2, 3] (p 2) :: c)).exit = .returned := by
  refine ⟨by decide, by decide, by decide, by decide, by decide⟩

/-- v6 (toy decoder, accept ≥ 4 bytes): a prefix of the history gives a prefix
of the invocations and is still waiting (`blocked`); the whole history has
returned, and the reads after the failed one added nothing. -/
example :
    let dec6 : Bytes → Option Nat := fun b => if b.length ≥ 4 then some b.length else none
    let a : List ReadResult := [.datagram [1, 0, 0, 1] (.other 3), .datagram [1] .nilAddr]
    let b : List ReadResult := [.datagram [3, 0, 0, 2, 0] (.udp none 546 []), .readError, .datagram [1, 0, 0, 2] .nilAddr]
    (serve6 dec6 a).invocations.map (fun v => (v.idx, v.msg)) = [(0, 4)] ∧ (serve6 dec6 a).exit = .blocked ∧
    (serve6 dec6 (a ++ b)).invocations.map (fun v => (v.idx, v.msg)) = [(0, 4), (2, 5)] ∧
    (serve6 dec6 (a ++ b)).exit = .returned := by
  decide

/-- clause (iii) is not vacuous: two different datagrams with the same first 4096 bytes -/
example :
    (List.replicate 4096 (7 : UInt8) ++ [1]) ≠ List.replicate 4096 (7 : UInt8) ++ [2] ∧
    (List.replicate 4096 (7 : UInt8) ++ [1]).take readBufLen =
      (List.replicate 4096 (7 : UInt8) ++ [2]).take readBufLen := by
  refine ⟨fun h => ?_, ?_⟩
  · have := List.append_cancel_left h
    simp at this
  · show (List.replicate 4096 (7 : UInt8) ++ [1]).take 4096 = (List.replicate 4096 (7 : UInt8) ++ [2]).take 4096
    rw [List.take_left' List.length_replicate, List.take_left' List.length_replicate]

/-! ### A read that completes while `Close` runs

`Close` closes the connection; a `ReadFrom` that had already got its datagram
returns it all the same, and the NEXT read fails.  For the loop that is the
history `a ++ [datagram, readError] ++ c`: the datagram was read successfully, so
it is the handler's - exactly once, with its own decoding and sender - and
`Serve` returns; nothing of `c` is processed.  (The scripts' event `k:<datagram>`;
a server dropping what it had read "because it is closing" breaks this.) -/

theorem C14_read_completing_during_close6 {α : Type} (dec6 : Bytes → Option α)
    (a c : List ReadResult) (ha : a.all ReadResult.isDatagram = true)
    (b : Bytes) (p : Peer) (m : α) (hd : dec6 (b.take readBufLen) = some m) :
    let rs := a ++ .datagram b p :: .readError :: c
    (serve6 dec6 rs).invocations.filter (fun v => v.idx == a.length) = [⟨a.length, m, p⟩] ∧
      (serve6 dec6 rs).exit = .returned ∧
      serve6 dec6 rs = serve6 dec6 (a ++ [.datagram b p, .readError]) := by
  have := serve_read_completing dec6 peer6 a c ha b p (peer6_noPanic _ _)
  simp only [handlerCall, hd, peer6, Option.toList] at this
  exact this

theorem C14_read_completing_during_close6_dec6 (a c : List ReadResult)
    (ha : a.all ReadResult.isDatagram = true) (b : Bytes) (p : Peer) (m : V6.Msg6)
    (hd : V6.dec6 (b.take readBufLen) = .ok m) :
    let rs := a ++ .datagram b p :: .readError :: c
    (serve6dec rs).invocations.filter (fun v => v.idx == a.length) = [⟨a.length, m, p⟩] ∧
      (serve6dec rs).exit = .returned ∧
      serve6dec rs = serve6dec (a ++ [.datagram b p, .readError]) :=
  C14_read_completing_during_close6 decode6 a c ha b p m (Res.toOption_eq_some.mpr hd)

theorem C14_read_completing_during_close4 (a c : List ReadResult)
    (ha : a.all ReadResult.isDatagram = true) (b : Bytes) (p q : Peer) (m : V4.Pkt4)
    (h : SocketPeers (a ++ .datagram b p :: .readError :: c))
    (hd : V4.dec4 (b.take readBufLen) = .ok m) (hp : peer4 p = .ok q) :
    let rs := a ++ .datagram b p :: .readError :: c
    (serve4 rs).invocations.filter (fun v => v.idx == a.length) = [⟨a.length, m, q⟩] ∧
      (serve4 rs).exit = .returned ∧
      serve4 rs = serve4 (a ++ [.datagram b p, .readError]) := by
  have := serve_read_completing decode4 peer4 a c ha b p (peer4_noPanic _ _ h)
  simp only [handlerCall, decode4, hd, hp, Res.toOption, Option.toList] at this
  exact this

end Dhcp.Server
