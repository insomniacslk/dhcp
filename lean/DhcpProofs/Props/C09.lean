import DhcpProofs.Lemmas.Cost6
import DhcpProofs.Lemmas.V6Termination
/-
  C09 — decoding cost is bounded: linear retained size, at most quadratic work.

  Measures (Dhcp/Cost.lean) are structural functions of the value produced by
  the ordinary model decoders `dec4` / `dec6` / `Label.fromBytes` (no
  instrumented decoder): `size4`, `size6`/`sizeOpt`, `sizeLabels` (payload
  bytes of every leaf + `nodeC = 32` per node), `depth6` (option-list nesting
  depth, top level = 1) and the allocation envelope
      work6 m b = |b|·(depth6 m + c1) + c2·size6 m          (c1 = 8, c2 = 4).

  Why `work6` is the allocation of the Go code (this correspondence is what the
  `cost` stream and the `c09` oracle measure, two-sidedly, on the real code):
    * decoding: every IA_NA / IA_TA / IA_PD / IAAddr / IAPrefix / vendor-opts
      parser hands `buf.ReadAll()` — a COPY of the rest of its value — to the
      nested `Options.FromBytes`; relay-message, 4RD and NTP parse in place.
      A byte of the input is therefore copied at most once per enclosing
      option list: ≤ |b| per level, ≤ |b|·depth6 in total;
    * every leaf is copied once (`CopyN`, `ReadAll`, `append([]byte(nil), …)`,
      `string(…)`), every option is one struct, one interface slot in an
      `Options` slice grown by doubling: a fixed multiple of `size6`;
    * re-encoding: `Options.ToBytes` builds every option value in its own
      buffer (`opt.ToBytes()`) and copies it into the buffer of the enclosing
      list, so each byte is written once per enclosing level (relay, 4RD and
      NTP levels included): again ≤ |b|-ish per level, buffers grown by
      doubling — the `c1` here and the constant `B1` of the stream (stream_cost.go) absorb the growth factor.
  Go's allocator (size classes, tiny allocator) and GC are not modelled; the
  theorems are about the cost function, the measurement stream shows that the
  function tracks `runtime.MemStats.TotalAlloc` within fixed constants.

  The label expansion factor: one 2-byte compression pointer yields one name of
  at most 253 bytes (`Label.maxNameLength`, re-checked against the source by
  DhcpProofs/Facts/LabelCap.lean) plus its node, (253 + 32)/2 < 143 per input
  byte, + 1 for the retained copy of the wire form: K = 144.  On inputs in
  which no octet has both top bits set no pointer can be read and K = 33
  (an empty name, one node, per zero octet).
-/
namespace Dhcp.Props
open Dhcp.V4 Dhcp.V6 Dhcp.Cost

/-- **C09 (size, DHCPv4).** K₁ = 16, K₀ = 0 (size ≤ K₁·|b| + K₀): every option instance costs at
least two octets of input and at most one map entry (32) plus its value. -/
theorem C09_size_v4 (b : Bytes) (p : Pkt4) (h : dec4 b = .ok p) : size4 p ≤ 16 * b.length :=
  size4_le b p h

/-- **C09 (size, DHCPv4, fine).** The input once + at most 256 map entries. -/
theorem C09_size_v4_tight (b : Bytes) (p : Pkt4) (h : dec4 b = .ok p) :
    size4 p ≤ b.length + 256 * 32 + 64 :=
  size4_le_tight b p h

/-- **C09 (repeated DHCPv4 options).** The instances of one code concatenate
to a value no longer than the options area … -/
theorem C09_v4_concat_linear (b : Bytes) (p : Pkt4) (h : dec4 b = .ok p) (c : UInt8) (v : Bytes)
    (hv : p.opts.f c = some v) : v.length + 240 ≤ b.length :=
  v4_concat_linear b p h c v hv

/-- … and so do all values together. -/
theorem C09_v4_values_total (b : Bytes) (p : Pkt4) (h : dec4 b = .ok p) :
    (Opts.allCodes.map (fun k => ((p.opts.f k).getD []).length)).sum + 240 ≤ b.length :=
  v4_values_total b p h

/-- **C09 (labels).** K = 144 with compression pointers … -/
theorem C09_size_label (buf : Bytes) (l : Label.Labels) (h : Label.fromBytes buf = .ok l) :
    sizeLabels l ≤ 144 * buf.length + 32 :=
  sizeLabels_le buf l h

/-- … K = 33 when no octet can be read as a pointer … -/
theorem C09_size_label_noptr (buf : Bytes) (hn : NoPtr buf) (l : Label.Labels)
    (h : Label.fromBytes buf = .ok l) : sizeLabels l ≤ 33 * buf.length + 32 :=
  sizeLabels_le_noptr buf hn l h

/-- … and no decoded name exceeds the cap, whatever the pointers do. -/
theorem C09_label_name_cap (buf : Bytes) (labs : List Bytes)
    (h : Label.labelsFromBytes buf = .ok labs) : ∀ n ∈ labs, n.length ≤ 253 :=
  names_le (Label.labelsFromBytes_eq_ok_iff.mp h)

/-- **C09 (size, DHCPv6).** All 32 option types, arbitrary nesting, all
inputs: K₁' = 144, K₀' = 64 (size ≤ K₁'·|b| + K₀'). The factor is the label expansion
factor: the proof asks only `24 ≤ K` of every other option type (`Cost.le_of_lin`),
and label sets are within 33 when no pointer can be read (`C09_size_v6_noptr`). -/
theorem C09_size_v6 (b : Bytes) (m : Msg6) (h : dec6 b = .ok m) : size6 m ≤ 144 * b.length + 64 :=
  (pmsg_bound budget_gen ((dec6_iff_rfc b m).mp h) trivial).1

/-- **C09 (size, DHCPv6, no compression pointers).** If no octet of the input
has both top bits set, K₁' = 33. -/
theorem C09_size_v6_noptr (b : Bytes) (hn : NoPtr b) (m : Msg6) (h : dec6 b = .ok m) :
    size6 m ≤ 33 * b.length + 64 :=
  (pmsg_bound budget_noptr ((dec6_iff_rfc b m).mp h) hn).1

/-- The same for `ParseOption` on one option value (4 = its header). -/
theorem C09_size_opt (code : Nat) (data : Bytes) (o : Opt6) (h : parseOption code data = .ok o) :
    sizeOpt o ≤ 144 * (data.length + 4) :=
  (popt_bound budget_gen ((parseOption_iff_rfc code data o).mp h) trivial).1

/-- **C09 (depth).** Every nesting level costs at least a 4-byte option header. -/
theorem C09_depth_v6 (b : Bytes) (m : Msg6) (h : dec6 b = .ok m) : 4 * depth6 m ≤ b.length + 4 :=
  (pmsg_bound budget_gen ((dec6_iff_rfc b m).mp h) trivial).2

theorem C09_depth_opt (code : Nat) (data : Bytes) (o : Opt6) (h : parseOption code data = .ok o) :
    4 * depthOpt o ≤ data.length + 4 :=
  (popt_bound budget_gen ((parseOption_iff_rfc code data o).mp h) trivial).2

/-- **C09 (loop progress).** One iteration of `Options.FromBytesWithParser`
continues with a lexer at least 4 bytes shorter — whether or not the value
overran the buffer (then `od = none`, the sticky error is set, and the loop
still goes on with the 4 header bytes consumed). -/
theorem C09_v6_loop_progress {α : Type} (parse : Nat → Bytes → Res α) (fuel : Nat) (l : Lexer)
    (acc : List α) (h : l.has 4 = true) :
    ∃ (code : Nat) (od : Option Bytes) (l' : Lexer),
      l'.data.length + 4 + (od.getD []).length ≤ l.data.length ∧
      (od = none → l'.err = true) ∧
      tlvLoop parse (fuel + 1) l acc =
        (match parse code (od.getD []) with
         | .ok o => tlvLoop parse fuel l' (acc ++ [o])
         | .err => .err
         | .panic => .panic) := by
  have hlen := LexLen.header_len l h
  refine ⟨l.read16.1, (l.read16.2.read16.2.consume l.read16.2.read16.1).1,
    (l.read16.2.read16.2.consume l.read16.2.read16.1).2, ?_, ?_, ?_⟩
  · cases hod : (l.read16.2.read16.2.consume l.read16.2.read16.1).1 with
    | none => have := Lexer.consume_le l.read16.2.read16.2 l.read16.2.read16.1; simp; omega
    | some od => have := LexLen.consume_some _ _ od hod; simp; omega
  · unfold Lexer.consume; split <;> simp
  · rw [tlvLoop]; simp only [h, if_true]; rfl

/-- Hence a successful loop produced at most one option per 4 bytes. -/
theorem C09_v6_options_count {α : Type} (parse : Nat → Bytes → Res α) (fuel : Nat) (l : Lexer)
    (acc os : List α) (h : tlvLoop parse fuel l acc = .ok os) :
    ∃ new, os = acc ++ new ∧ 4 * new.length ≤ l.data.length := by
  cases l with | mk d e =>
  cases e with
  | true => exact absurd h (tlvLoop_err_sticky parse fuel _ acc rfl os)
  | false =>
    obtain ⟨new, h1, ht⟩ := tlvLoop_sound parse fuel d acc os h
    exact ⟨new, h1, ht.length_le⟩

/-- linear coefficient of the work bound: `c1 + c2·(144 + 64)` -/
def K2 : Nat := c1 + c2 * (144 + 64)
theorem C09_K2_eq : K2 = 840 := by decide

/-- **C09 (work, DHCPv6).** The allocation envelope of decoding and
re-encoding is at most `840·|b| + |b|·(|b|/4 + 1)`: a fixed multiple of the
input plus one copy of the input per nesting level, of which there are at most
`|b|/4 + 1` — at most quadratic, coefficient 1/4. -/
theorem C09_work_v6 (b : Bytes) (m : Msg6) (h : dec6 b = .ok m) :
    work6 m b ≤ K2 * b.length + b.length * (b.length / 4 + 1) := by
  have hs := C09_size_v6 b m h
  have hd := C09_depth_v6 b m h
  have hn := dec6_nonempty b m h
  have hd' : depth6 m ≤ b.length / 4 + 1 := by omega
  have h1 : b.length * depth6 m ≤ b.length * (b.length / 4 + 1) := Nat.mul_le_mul_left _ hd'
  simp only [work6, K2, c1, c2, Nat.mul_add] at *
  omega

/-- The form the property text uses: a fixed multiple of the input plus one
copy of the input per level of nesting. -/
theorem C09_work_v6_per_level (b : Bytes) (m : Msg6) (h : dec6 b = .ok m) :
    work6 m b ≤ K2 * b.length + b.length * depth6 m := by
  have hs := C09_size_v6 b m h
  have hn := dec6_nonempty b m h
  simp only [work6, K2, c1, c2, Nat.mul_add] at *
  omega

/-- Without compression pointers the linear coefficient drops to `c1 + c2·(33 + 64) = 396`. -/
theorem C09_work_v6_noptr (b : Bytes) (hp : NoPtr b) (m : Msg6) (h : dec6 b = .ok m) :
    work6 m b ≤ 396 * b.length + b.length * (b.length / 4 + 1) := by
  have hs := C09_size_v6_noptr b hp m h
  have hd := C09_depth_v6 b m h
  have hn := dec6_nonempty b m h
  have hd' : depth6 m ≤ b.length / 4 + 1 := by omega
  have h1 : b.length * depth6 m ≤ b.length * (b.length / 4 + 1) := Nat.mul_le_mul_left _ hd'
  simp only [work6, c1, c2, Nat.mul_add] at *
  omega

/-- **C09 (work, DHCPv4).** No nesting: linear, `c1 + 16·c2 = 72` per byte. -/
theorem C09_work_v4 (b : Bytes) (p : Pkt4) (h : dec4 b = .ok p) : work4 p b ≤ 72 * b.length := by
  have := C09_size_v4 b p h
  simp only [work4, c1, c2]; omega

/-- The fine-grained measure `nest6` the `cost` stream fits against real
allocation is computed in one pass; the lengths it sums are those of the model
encoder (so it is "bytes written by ToBytes, every level's buffer counted"). -/
theorem C09_nest_lengths (m : Msg6) : (lenNest6 m).1 = (encMsg m).length := lenNest6_fst m

/-- IA_NA{IAAddr{}} in a Solicit: decodes, three levels of option lists. -/
def exNested : Bytes :=
  [1,0,0,0, 0,3,0,40, 0,0,0,1, 0,0,0,0, 0,0,0,0, 0,5,0,24,
   32,1,0,0,0,0,0,0,0,0,0,0,0,0,0,1, 0,0,0,10, 0,0,0,20]

example : (match dec6 exNested with | .ok m => (size6 m, depth6 m) | _ => (0, 0)) = (119, 3) := by
  decide

/-- a domain-search option whose second name is a compression pointer (2 octets
yield the name `a`): its cost, within the bound 144·5 + 64 -/
example : (match parseOption 24 [1, 97, 0, 0xc0, 0] with | .ok o => sizeOpt o | _ => 0) = 135 := by
  decide

example : NoPtr [1, 0, 0, 0, 0, 8, 0, 2, 0, 0] := by unfold NoPtr; decide

end Dhcp.Props
