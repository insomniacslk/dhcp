import DhcpProofs.Lemmas.ClientTimed
import DhcpProofs.Lemmas.ClientBytes
/-
  C12 — retransmission follows the configured schedule exactly.
  Property theorems only (helper lemmas: DhcpProofs/Lemmas/ClientTimed.lean, ClientBytes.lean).

  Model: Dhcp.Client.Timed.  `runObs T n obs H` is the result (instants of all
  transmissions up to the horizon `H`, and the return if any) of one
  SendAndRead call with timeout `T` ns and retry count `n`, for the sequence
  `obs` of stimuli as the calling goroutine observes them; `runCall` is the
  set of results a script of external events allows (what the driver prints
  and the client4/client6 streams compare with the real clients).

  "Identical datagram, requested destination" (`C12_bytes*`, last section):
  `runObsB c T n obs H` is the same machine with every transmission recorded
  in full (instant, bytes, destination).  `c : Call Req Dest` describes the
  call: `c.enc` is `ToBytes` (abstract), `c.dest` the destination argument,
  `c.reqAt k` the value of the request when try `k` runs `send` (the code
  calls `msg.ToBytes()` on every try).  Forgetting bytes and destinations
  gives `runObs` (`C12_bytes_projection`), so the theorems about `runObs` hold of it.
  The streams client4/client6 and oracle c12 compare every WriteTo of the real
  clients byte for byte with the request's encoding and with the destination;
  the driver prints the flags the model computes (`wire`) next to each instant.
-/
namespace Dhcp.Client.Timed

/-- **C12 (schedule).** `n ≥ 0` tries, timeout `T > 0`, ANY traffic that
contains no acceptable response (datagrams the matcher rejects, datagrams the
receive loop drops — any number, any instants, any coincidence with the
deadlines), no cancellation, no Close: the call transmits exactly `n` times,
at `T·(2^k − 1)` for `k < n`, and fails with the no-response error at
`T·(2^n − 1)`.  (`NoOverflow`: `timeout *= 2` stays inside `int64`; it is what
ties the unbounded `Int` of the model to `time.Duration`.) -/
theorem C12_times (T n : Int) (obs : List Obs) (H : Int) (hT : 0 < T) (hn : 0 ≤ n)
    (_hov : NoOverflow T n.toNat)
    (hq : ∀ o ∈ obs, o.kind = .irr ∨ o.kind = .rej) (hH : T * (2 ^ n.toNat - 1) ≤ H) :
    runObs T n obs H =
      ⟨(List.range n.toNat).map (fun k => T * (2 ^ k - 1)), some (T * (2 ^ n.toNat - 1), .noResp)⟩ :=
  times_of_quiet hT hn obs H hq hH

/-- **C12 (count).** Exactly `n` transmissions in that case. -/
theorem C12_count (T n : Int) (obs : List Obs) (H : Int) (hT : 0 < T) (hn : 0 ≤ n)
    (hq : ∀ o ∈ obs, o.kind = .irr ∨ o.kind = .rej) (hH : T * (2 ^ n.toNat - 1) ≤ H) :
    (runObs T n obs H).txs.length = n.toNat := by
  rw [times_of_quiet hT hn obs H hq hH]; exact sched_length T _

/-- **C12 (negative try count retries until cancelled), running form.** `n < 0`,
no acceptable response: at any horizon `H` lying in try `m`
(`T·(2^m − 1) ≤ H < T·(2^(m+1) − 1)`) the call is still running and has
transmitted at `T·(2^k − 1)` for every `k ≤ m`. Holds for every `m`: the call
never gives up. -/
theorem C12_negative (T n : Int) (obs : List Obs) (H : Int) (m : Nat) (hT : 0 < T) (hn : n < 0)
    (hq : ∀ o ∈ obs, o.kind = .irr ∨ o.kind = .rej) (hobs : ∀ o ∈ obs, o.t ≤ H)
    (hm1 : T * (2 ^ m - 1) ≤ H) (hm2 : H < T * (2 ^ (m + 1) - 1)) :
    runObs T n obs H = ⟨(List.range (m + 1)).map (fun k => T * (2 ^ k - 1)), none⟩ :=
  running_of_quiet hT obs H m hq hobs hm1 hm2 (Or.inl hn)

/-- **C12 (negative try count), cancelled form.** … and when the context ends
at an instant `τ` inside try `m` the call returns the context's error at `τ`
having transmitted exactly `m + 1` times; nothing after (`post`, `H` arbitrary). -/
theorem C12_negative_cancel (T n : Int) (pre post : List Obs) (τ : Int) (tag : Nat) (H : Int) (m : Nat)
    (hT : 0 < T) (hn : n < 0) (hq : ∀ o ∈ pre, o.kind = .irr ∨ o.kind = .rej) (hpre : ∀ o ∈ pre, o.t ≤ τ)
    (hm1 : T * (2 ^ m - 1) ≤ τ) (hm2 : τ < T * (2 ^ (m + 1) - 1)) :
    runObs T n (pre ++ ⟨τ, .ctx, tag, true⟩ :: post) H =
      ⟨(List.range (m + 1)).map (fun k => T * (2 ^ k - 1)), some (τ, .ctxErr)⟩ :=
  quiet_then_terminal hT pre post ⟨τ, .ctx, tag, true⟩ H m hq (Or.inr (Or.inl rfl)) rfl hpre hm1 hm2 (Or.inl hn)

/-- **C12 (a response accepted during try `k` ends the call), forward form.**
Rejected/foreign traffic, then an acceptable response observed at an instant
`τ` inside try `k` (a try the retry count allows): the call returns that
response at `τ` after exactly `k + 1` transmissions, whatever arrives later
and however far the horizon is: no further transmission follows. -/
theorem C12_stop (T n : Int) (pre post : List Obs) (τ : Int) (tag : Nat) (H : Int) (k : Nat)
    (hT : 0 < T) (hk : n < 0 ∨ (k : Int) < n)
    (hq : ∀ o ∈ pre, o.kind = .irr ∨ o.kind = .rej) (hpre : ∀ o ∈ pre, o.t ≤ τ)
    (hk1 : T * (2 ^ k - 1) ≤ τ) (hk2 : τ < T * (2 ^ (k + 1) - 1)) :
    runObs T n (pre ++ ⟨τ, .acc, tag, true⟩ :: post) H =
      ⟨(List.range (k + 1)).map (fun j => T * (2 ^ j - 1)), some (τ, .resp tag)⟩ :=
  quiet_then_terminal hT pre post ⟨τ, .acc, tag, true⟩ H k hq (Or.inl rfl) rfl hpre hk1 hk2 hk

/-- **C12 (stop), inverse form, every observation sequence** (racing
coincidences included): whenever a call returns a response, it does so at an
instant `τ` of some try `k`, and the transmissions are exactly those of tries
`0..k`. -/
theorem C12_stop_any (T n : Int) (obs : List Obs) (H τ : Int) (i : Nat) (hT : 0 < T)
    (h : (runObs T n obs H).ret = some (τ, .resp i)) :
    ∃ k : Nat, (runObs T n obs H).txs = (List.range (k + 1)).map (fun j => T * (2 ^ j - 1)) ∧
      (n < 0 ∨ (k : Int) < n) ∧ T * (2 ^ k - 1) ≤ τ ∧ τ ≤ T * (2 ^ (k + 1) - 1) := by
  rcases runObs_cases (E := True) hT obs H (fun _ _ _ => .inl trivial) with
    ⟨_, he, _⟩ | ⟨k, _, he, _⟩ | ⟨_, k, t, o, hk, he, h1, h2⟩ <;> rw [he] at h ⊢
  · cases h
  · cases h
  · injection h with h; injection h with h _; subst h
    exact ⟨k, rfl, hk, h1, h2⟩

/-- **C12 (transmissions are always a prefix of the schedule).** For EVERY
observation sequence (accepted, rejected, cancelled, closed, racing with
deadlines or not): the transmissions are `T·(2^k − 1)`, `k < m`, for some `m`
(`m ≤ n` when `n ≥ 0`), and none is later than the return. -/
theorem C12_prefix (T n : Int) (obs : List Obs) (H : Int) (hT : 0 < T) :
    ∃ m, (runObs T n obs H).txs = (List.range m).map (fun k => T * (2 ^ k - 1)) ∧ (0 ≤ n → (m : Int) ≤ n) ∧
      ∀ t o, (runObs T n obs H).ret = some (t, o) → ∀ x ∈ (runObs T n obs H).txs, x ≤ t := by
  obtain ⟨m, h1, h2, h3⟩ := result_shape (n := n) hT obs H
  exact ⟨m, h1, h2, fun t o h x hx => (h3 t o h).1 x (h1 ▸ hx)⟩

/-- **C12 for the script-level model** (the function whose output the
correspondence streams compare with the real clients): every result allowed
for any script obeys the prefix law. -/
theorem C12_prefix_script (T n : Int) (evs : List Event) (H : Int) (hT : 0 < T) (r : Result)
    (hr : r ∈ runCall T n evs H) :
    ∃ m, r.txs = (List.range m).map (fun k => T * (2 ^ k - 1)) ∧ (0 ≤ n → (m : Int) ≤ n) := by
  obtain ⟨obs, rfl⟩ := runCall_sound T n evs H r hr
  obtain ⟨m, h1, h2, _⟩ := C12_prefix T n obs H hT
  exact ⟨m, h1, h2⟩

/-- **C12 (schedule) for the script-level model**: for a script that injects
only rejected / dropped datagrams (at any instants, applied at quiescence or
racing, in bursts or not) EVERY result the driver can print is the full
schedule followed by the no-response error. -/
theorem C12_times_script (T n : Int) (evs : List Event) (H : Int) (hT : 0 < T) (hn : 0 ≤ n)
    (hq : ∀ e ∈ evs, e.kind = .irr ∨ e.kind = .rej) (hH : T * (2 ^ n.toNat - 1) ≤ H) (r : Result)
    (hr : r ∈ runCall T n evs H) :
    r = ⟨(List.range n.toNat).map (fun k => T * (2 ^ k - 1)), some (T * (2 ^ n.toNat - 1), .noResp)⟩ := by
  obtain ⟨obs, hobs, rfl⟩ := runCall_quiet_sound T n evs H hq r hr
  exact times_of_quiet hT hn obs H hobs hH

/-! Non-vacuity: concrete runs (evaluated by the kernel). -/

/-- T = 1000, 3 tries, a rejected datagram every 300 ns (also exactly on the
deadlines 1000 and 3000, racing): transmissions at 0, 1000, 3000, gives up at 7000. -/
example : runObs 1000 3 ((List.range 30).map (fun i => ⟨300 * i + 100, .rej, i, i % 2 == 0⟩)
      ++ [⟨1000, .rej, 40, false⟩, ⟨3000, .irr, 41, false⟩]) 10000 =
    ⟨[0, 1000, 3000], some (7000, .noResp)⟩ := by decide

/-- accepted in try 1 (at 2500 of a 1000/3-try call): two transmissions, none after. -/
example : runObs 1000 3 [⟨400, .rej, 0, true⟩, ⟨2500, .acc, 7, true⟩, ⟨2600, .acc, 8, true⟩] 10000 =
    ⟨[0, 1000], some (2500, .resp 7)⟩ := by decide

/-- negative count: still running at 40000, six transmissions so far. -/
example : runObs 1000 (-1) [⟨400, .rej, 0, true⟩] 40000 =
    ⟨[0, 1000, 3000, 7000, 15000, 31000], none⟩ := by decide

/-- the hypotheses of `C12_times` are satisfiable with defaults of the clients (5 s, 3 tries). -/
example : NoOverflow 5000000000 3 ∧ (0 : Int) < 5000000000 := by unfold NoOverflow; decide

/-! ## bytes and destination

The machine with transmission records.  No hypothesis on `T`, `n`, the
observations or the horizon in `C12_bytes`, `C12_bytes_at`, `C12_bytes_mutated`:
they hold of every try of every call, whatever the caller observes. -/

/-- **C12 (projection).** The machine with bytes is the machine of instants
with more in its records: same instants, same return.  Every theorem above is
a theorem about `runObsB` through these two equations. -/
theorem C12_bytes_projection {Req Dest : Type} (c : Call Req Dest) (T n : Int) (obs : List Obs) (H : Int) :
    (runObsB c T n obs H).sent.map (·.t) = (runObs T n obs H).txs ∧
    (runObsB c T n obs H).ret = (runObs T n obs H).ret := by
  rw [runObsB_eq]; exact ⟨wire_map_t c _, rfl⟩

/-- **C12 (which request each transmission carries), general form.** Whatever
the caller does to the request during the call: the `j`-th transmission is made
by try `j`, at the `j`-th instant of the timed model, carries the encoding of
the request AS IT IS WHEN TRY `j` RUNS `send`, and goes to the requested
destination. -/
theorem C12_bytes_at {Req Dest : Type} (c : Call Req Dest) (T n : Int) (obs : List Obs) (H : Int) :
    (runObsB c T n obs H).sent = wire c (runObs T n obs H).txs ∧
    ∀ j tx, (runObsB c T n obs H).sent[j]? = some tx →
      (runObs T n obs H).txs[j]? = some tx.t ∧ tx.bytes = c.enc (c.reqAt j) ∧ tx.dest = c.dest := by
  refine ⟨runObsB_sent c T n obs H, fun j tx h => ?_⟩
  rw [runObsB_sent, wire_getElem?, Option.map_eq_some_iff] at h
  obtain ⟨t, ht, rfl⟩ := h
  exact ⟨ht, rfl, rfl⟩

/-- **C12 (identical datagram, requested destination).** A request that is not
modified during the call (`reqAt k = r` for every try `k`): EVERY transmission
of the call — all tries, any `T`, any retry count, any observation sequence,
any horizon — carries exactly `enc r` and goes to the requested destination. -/
theorem C12_bytes {Req Dest : Type} (c : Call Req Dest) (r : Req) (T n : Int) (obs : List Obs) (H : Int)
    (hreq : ∀ k, c.reqAt k = r) :
    ∀ tx ∈ (runObsB c T n obs H).sent, tx.bytes = c.enc r ∧ tx.dest = c.dest := by
  intro tx htx
  obtain ⟨j, hj⟩ := List.getElem?_of_mem htx
  obtain ⟨_, hb, hd⟩ := (C12_bytes_at c T n obs H).2 j tx hj
  exact ⟨by rw [hb, hreq], hd⟩

/-- **C12 (the caller changes the request between tries).** The request is `r`
up to and including the `send` of try `k` and `r'` from then on (changed while
try `k` waits): transmissions `0..k` carry `enc r`, every later one carries
`enc r'` — the NEW encoding is sent, as the code does (`msg.ToBytes()` on every
try); instants and destination are unaffected. -/
theorem C12_bytes_mutated {Req Dest : Type} (enc : Req → List UInt8) (r r' : Req) (k : Nat) (dest : Dest)
    (T n : Int) (obs : List Obs) (H : Int) :
    (runObsB (Call.mutatedAfter enc r r' k dest) T n obs H).sent.map (·.t) = (runObs T n obs H).txs ∧
    ∀ j tx, (runObsB (Call.mutatedAfter enc r r' k dest) T n obs H).sent[j]? = some tx →
      tx.dest = dest ∧ (j ≤ k → tx.bytes = enc r) ∧ (k < j → tx.bytes = enc r') := by
  refine ⟨(C12_bytes_projection _ T n obs H).1, fun j tx h => ?_⟩
  obtain ⟨_, hb, hd⟩ := (C12_bytes_at (Call.mutatedAfter enc r r' k dest) T n obs H).2 j tx h
  refine ⟨hd, fun hj => ?_, fun hj => ?_⟩
  · rw [hb]; simp [Call.mutatedAfter, hj]
  · rw [hb]; simp [Call.mutatedAfter, Nat.not_le.mpr hj]

/-- **C12, first sentence of the property in one statement.** No acceptable
response, timeout `T > 0`, `n ≥ 0` tries, request not modified: the call
transmits the identical datagram `enc r` exactly `n` times, at `T·(2^k − 1)`,
`k < n`, to the requested destination, and then fails with the no-response
error at `T·(2^n − 1)`. -/
theorem C12_identical_datagram {Req Dest : Type} (enc : Req → List UInt8) (r : Req) (dest : Dest)
    (T n : Int) (obs : List Obs) (H : Int) (hT : 0 < T) (hn : 0 ≤ n) (_hov : NoOverflow T n.toNat)
    (hq : ∀ o ∈ obs, o.kind = .irr ∨ o.kind = .rej) (hH : T * (2 ^ n.toNat - 1) ≤ H) :
    runObsB (Call.const enc r dest) T n obs H =
      ⟨(List.range n.toNat).map (fun k => ⟨T * (2 ^ k - 1), enc r, dest⟩),
       some (T * (2 ^ n.toNat - 1), .noResp)⟩ := by
  rw [runObsB_eq, C12_times T n obs H hT hn _hov hq hH]
  simp only [wire_map_range]
  rfl

/-- **C12 (a response accepted during try `k`), with bytes**: exactly `k + 1`
transmissions of the identical datagram to the requested destination, none
after. -/
theorem C12_stop_bytes {Req Dest : Type} (enc : Req → List UInt8) (r : Req) (dest : Dest)
    (T n : Int) (pre post : List Obs) (τ : Int) (tag : Nat) (H : Int) (k : Nat)
    (hT : 0 < T) (hk : n < 0 ∨ (k : Int) < n)
    (hq : ∀ o ∈ pre, o.kind = .irr ∨ o.kind = .rej) (hpre : ∀ o ∈ pre, o.t ≤ τ)
    (hk1 : T * (2 ^ k - 1) ≤ τ) (hk2 : τ < T * (2 ^ (k + 1) - 1)) :
    runObsB (Call.const enc r dest) T n (pre ++ ⟨τ, .acc, tag, true⟩ :: post) H =
      ⟨(List.range (k + 1)).map (fun j => ⟨T * (2 ^ j - 1), enc r, dest⟩), some (τ, .resp tag)⟩ := by
  rw [runObsB_eq, C12_stop T n pre post τ tag H k hT hk hq hpre hk1 hk2]
  simp only [wire_map_range]
  rfl

/-- **C12 (bytes) for the script-level model**: for every result `r` the
script-level model allows, the records the driver prints with it (`wire c r.txs`)
are what the machine with bytes transmits on some observation sequence of that
script; with an unmodified request each of them is `enc req` to `dest`. -/
theorem C12_bytes_script {Req Dest : Type} (c : Call Req Dest) (T n : Int) (evs : List Event) (H : Int)
    (r : Result) (hr : r ∈ runCall T n evs H) :
    (∃ obs, runObsB c T n obs H = ⟨wire c r.txs, r.ret⟩) ∧
    ∀ q, (∀ k, c.reqAt k = q) → ∀ tx ∈ wire c r.txs, tx.bytes = c.enc q ∧ tx.dest = c.dest := by
  obtain ⟨obs, rfl⟩ := runCall_sound T n evs H r hr
  refine ⟨⟨obs, runObsB_eq c T n obs H⟩, fun q hq tx htx => ?_⟩
  rw [← runObsB_sent c T n obs H] at htx
  exact C12_bytes c q T n obs H hq tx htx

/-! Non-vacuity with bytes: requests are numbers, `enc v = [v, 99]`, destination 67. -/

/-- unmodified request 7: three transmissions of `[7, 99]` to 67 -/
example : (runObsB (Call.const (fun v : UInt8 => [v, 99]) 7 (67 : Nat)) 1000 3 [⟨400, .rej, 0, true⟩] 10000).sent =
    [⟨0, [7, 99], 67⟩, ⟨1000, [7, 99], 67⟩, ⟨3000, [7, 99], 67⟩] := by decide

/-- the caller replaces 7 by 8 while try 0 waits: the first datagram is
`[7, 99]`, the retransmissions are `[8, 99]` — same instants, same destination -/
example : (runObsB (Call.mutatedAfter (fun v : UInt8 => [v, 99]) 7 8 0 (67 : Nat)) 1000 3 [] 10000).sent =
    [⟨0, [7, 99], 67⟩, ⟨1000, [8, 99], 67⟩, ⟨3000, [8, 99], 67⟩] := by decide

end Dhcp.Client.Timed
