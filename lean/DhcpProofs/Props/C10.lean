import DhcpProofs.Lemmas.ClientLTSHist
/-
  C10 — a client call only ever returns a response to its own transaction.
  Property theorems only (helpers: DhcpProofs/Lemmas/ClientLTS.lean, ClientLTSHist.lean).

  Model: Dhcp.Client.LTS — the labelled transition system of N callers (N
  arbitrary: `Cfg.caller : Nat → CallerCfg`), the receive loop, Close and the
  environment. `Reachable cfg s` = some label list leads from `init` to `s`:
  every theorem below that assumes `Reachable` holds for EVERY interleaving of
  every number of callers with every stream of datagrams, timer firings,
  context ends and Close.  `hf : cfg.cancelChecksOwner = true` selects the
  current `cancel()` (fact-checked against the source: Facts/Client.lean).

  Vocabulary: `hist` = datagrams in the order `ReadFrom` returned them (a
  packet's `seq` is its index there: "arrival order" as the client sees it);
  a registration `r` (one `pendingCh` entry, one per try) has `routed` = every
  packet the loop ever sent on its channel, in order; `lastReg` of a caller =
  the registration of its latest try; `startProc` = how many datagrams the
  loop had finished with when the call began.
-/
namespace Dhcp.Client.LTS

/-- **inv_chan_contents.** Every packet buffered for (indeed: ever routed to) a
registration of transaction id `x` passed the receive loop's filters (decodes;
DHCPv4: BOOTREPLY for the client's hardware address), has transaction id `x`
and is in the arrival history. -/
theorem C10_inv_chan_contents (cfg : Cfg) (hf : cfg.cancelChecksOwner = true) (s : State)
    (hr : Reachable cfg s) (r : Nat) (p : Pkt) (hp : p ∈ (getR s r).buf ∨ p ∈ (getR s r).routed) :
    p.d.ok = true ∧ p.d.xid = (getR s r).xid ∧ s.hist[p.seq]? = some p.d := by
  have hi := reach_all cfg hf s hr
  have hp' : p ∈ (getR s r).routed := by
    rcases hp with hp | hp
    · rw [(hi.h.reg r).split]; exact List.mem_append_right _ hp
    · exact hp
  obtain ⟨a, b, c, _⟩ := hi.c.routed r p hp'
  exact ⟨a, b, c⟩

/-- **inv_pending_functional.** `pending` maps a transaction id to at most one
entry (a Go map: by type), each entry is filed under its own transaction id
only, and its channel is open. -/
theorem C10_inv_pending_functional (cfg : Cfg) (hf : cfg.cancelChecksOwner = true) (s : State)
    (hr : Reachable cfg s) (x x' r : Nat) (h : s.pending.get x = some r) (h' : s.pending.get x' = some r) :
    x = x' ∧ (getR s r).chClosed = false := by
  have hi := reach_all cfg hf s hr
  obtain ⟨_, a, c⟩ := hi.w.pend x r h
  obtain ⟨_, b, _⟩ := hi.w.pend x' r h'
  exact ⟨a.symm.trans b, c⟩

/-- **C10_refuse.** A `send` that finds its transaction id pending cannot
register; it is refused: the caller returns the in-use error and nothing of
the pending transaction (map, entries, channels) is touched. And the refusal
is always available (the guard on the mutex never blocks it). -/
theorem C10_refuse (cfg : Cfg) (s : State) (i : Nat) (hp : (s.pending.get (cfg.caller i).xid).isSome) :
    step cfg s (.register i) = none ∧
    (∀ s', step cfg s (.refuse i) = some s' →
        s'.pending = s.pending ∧ s'.regs = s.regs ∧ (getC s' i).pc = .returned .inUse) := by
  constructor
  · simp only [step]
    split
    · next h => rw [h.2.2] at hp; simp at hp
    · rfl
  · intro s' h
    simp only [step] at h
    split at h
    · injection h with h; subst h; simp [getC]
    · simp at h

theorem C10_refuse_enabled (cfg : Cfg) (hf : cfg.cancelChecksOwner = true) (s : State) (hr : Reachable cfg s)
    (i : Nat) (hpc : (getC s i).pc = .regLocked) (hp : (s.pending.get (cfg.caller i).xid).isSome) :
    (step cfg s (.refuse i)).isSome := by
  have hi := reach_all cfg hf s hr
  have hm : s.mutex = some (.caller i) := (hi.m.c i).2 (by rw [hpc]; rfl)
  simp [step, hpc, hm, hp]

/-- **C10_own.** A returned response was delivered to a registration owned by
that very call, carries the call's transaction id, passed the filters, is
accepted by the call's matcher, is a datagram of the arrival history, and the
receive loop had not yet disposed of it when the call began ("arrived while
the call was waiting"). -/
theorem C10_own (cfg : Cfg) (hf : cfg.cancelChecksOwner = true) (s : State) (hr : Reachable cfg s)
    (i : Nat) (p : Pkt) (hret : (getC s i).pc = .returned (.ok (some p))) :
    p ∈ (getR s (getC s i).lastReg).routed ∧ (getR s (getC s i).lastReg).owner = i ∧
    p.d.xid = (cfg.caller i).xid ∧ p.d.ok = true ∧ accepted (cfg.caller i) p.d = true ∧
    s.hist[p.seq]? = some p.d ∧ (getC s i).startProc ≤ p.seq := by
  have hi := reach_all cfg hf s hr
  have hres : (getC s i).pc.result = some p := by rw [hret]; rfl
  obtain ⟨_, ho, hx, hb, _⟩ := (hi.h.c i).got p hres
  have hfa := Got_first hi.h hres
  have hmem : p ∈ (getR s (getC s i).lastReg).routed := List.mem_of_find?_eq_some hfa
  have hacc : accepted (cfg.caller i) p.d = true := by
    have := List.find?_some hfa; simpa using this
  obtain ⟨a, b, c, d⟩ := hi.c.routed _ p hmem
  exact ⟨hmem, ho, b.trans hx, a, hacc, c, Nat.le_trans hb d⟩

/-- The literal reading of "arrived while that call was waiting" — the datagram
reached the socket after the call was made. -/
def C10_arrived_after_call_full (cfg : Cfg) : Prop :=
  ∀ (pre mid post : List Label) (d : Dgram) (i : Nat) (s : State) (p : Pkt),
    run cfg init (pre ++ [.arrive d] ++ mid ++ [.call i] ++ post) = some s →
    (getC s i).pc = .returned (.ok (some p)) → p.seq ≠ (pre.filter (fun l => match l with | .arrive _ => true | _ => false)).length

/-- Two callers with different transaction ids; caller 0's buffer (capacity 0)
is full while its matcher is still running, so the loop is parked holding the
mutex; a datagram for id 2 reaches the socket; only then caller 1 (id 2) calls. -/
def cfgStale : Cfg :=
  { caller := fun i => { xid := i + 1, matchNil := false, accepts := fun d => d.tag == 1, retry := 1 }, cap := 0 }

/-- **C10_arrived_before_call_counterexample.** The literal reading is false of
the model (and of the code: known finding `stale-datagram`, reproduced under
synctest): a datagram that was already in the socket queue when the call was
made is delivered to it. What holds is `C10_own`'s clause: the receive loop
had not yet disposed of it. -/
theorem C10_arrived_before_call_counterexample : ¬ C10_arrived_after_call_full cfgStale := by
  intro h
  have hrun : ∃ s, run cfgStale init
      ([.call 0, .lock 0, .register 0, .transmit 0, .arrive ⟨1, true, 0⟩, .arrive ⟨1, true, 0⟩,
        .rxRead, .rxPass, .rxLock, .rxDeliver, .rxUnlock, .take 0, .rxRead, .rxPass, .rxLock] ++
       [.arrive ⟨2, true, 1⟩] ++ [] ++ [.call 1] ++
       [.reject 0, .rxDeliver, .rxUnlock, .lock 1, .register 1, .transmit 1, .rxRead, .rxPass, .rxLock, .rxDeliver,
        .rxUnlock, .take 1, .accept 1, .cancel1 1, .lock 1, .cancel2 1, .ret 1]) = some s ∧
      (getC s 1).pc = .returned (.ok (some ⟨2, ⟨2, true, 1⟩⟩)) := ⟨_, rfl, by decide⟩
  obtain ⟨s, h1, h2⟩ := hrun
  exact h _ _ _ _ 1 s _ h1 h2 (by decide)

/-- **C10_first.** … and it is the FIRST packet, in the order the loop routed
them to that registration, that the call's matcher accepts. -/
theorem C10_first (cfg : Cfg) (hf : cfg.cancelChecksOwner = true) (s : State) (hr : Reachable cfg s)
    (i : Nat) (p : Pkt) (hret : (getC s i).pc = .returned (.ok (some p))) :
    ∃ pre post, (getR s (getC s i).lastReg).routed = pre ++ p :: post ∧
      accepted (cfg.caller i) p.d = true ∧ ∀ q ∈ pre, accepted (cfg.caller i) q.d = false := by
  have hi := reach_all cfg hf s hr
  have hfa := Got_first hi.h (show (getC s i).pc.result = some p by rw [hret]; rfl)
  unfold firstAcc at hfa
  obtain ⟨hacc, pre, post, heq, hpre⟩ := List.find?_eq_some_iff_append.1 hfa
  refine ⟨pre, post, heq, by simpa using hacc, ?_⟩
  intro q hq
  have := hpre q hq
  simpa using this

/-- **C10 (never nil).** No call ever receives from a closed channel, returns
`(nil, nil)`, or hands a nil packet to its matcher. -/
theorem C10_never_nil (cfg : Cfg) (hf : cfg.cancelChecksOwner = true) (s : State) (hr : Reachable cfg s) (i : Nat) :
    (∀ r, (getC s i).pc ≠ .matching r none) ∧ (getC s i).pc ≠ .returned (.ok none) ∧
    (getC s i).pc ≠ .returned .crash := by
  have hn := (reach_all cfg hf s hr).n i
  refine ⟨fun r h => ?_, fun h => ?_, fun h => ?_⟩ <;> rw [h] at hn <;> simp [CPc.nilish] at hn

/-- **C10_drop_harmless.** Dropping a malformed / foreign datagram (`rxDrop`),
and looking up a well-formed one nobody is waiting for (`rxLock` finding no
entry, then `rxUnlock`), leave every caller, every registration and the
pending map exactly as they were. -/
theorem C10_drop_harmless (cfg : Cfg) (s s' : State) (h : step cfg s .rxDrop = some s') :
    s'.callers = s.callers ∧ s'.regs = s.regs ∧ s'.pending = s.pending ∧ s'.mutex = s.mutex ∧ s'.fault = s.fault := by
  simp only [step] at h
  split at h
  · split at h
    · simp at h
    · injection h with h; subst h; simp
  · simp at h

theorem C10_unsolicited_harmless (cfg : Cfg) (s s' : State) (l : Label) (hl : l = .rxLock ∨ l = .rxUnlock ∨ l = .rxPass ∨ l = .rxRead)
    (h : step cfg s l = some s') : s'.callers = s.callers ∧ s'.regs = s.regs ∧ s'.pending = s.pending := by
  rcases hl with rfl | rfl | rfl | rfl <;> simp only [step] at h <;> (repeat' split at h) <;>
    first | (simp at h; done) | (injection h with h; subst h; simp)

def procOf : Label → Option Proc
  | .rxRead | .rxExit | .rxDrop | .rxPass | .rxLock | .rxDeliver | .rxDoneDrop | .rxUnlock => some .rx
  | .lock i | .register i | .refuse i | .transmit i | .transmitFail i | .transmitErr i | .take i | .accept i | .reject i
  | .giveUp i | .giveUpCtx i | .giveUpClosed i | .cancel1 i | .cancel2 i | .nextTry i | .ret i => some (.caller i)
  | _ => none

/-- **inv_lock (the model-level data-race statement).** Any step that changes
`pending` is taken by the process that owns the mutex; and the owner is
exactly the process whose program counter is inside a lock region, so the
owner guards never disable a step. (`pending` is *read* by `rxLock`, which
acquires the mutex in the same step, and by `register`/`refuse`/`cancel2`,
which carry the same owner guard.) -/
theorem C10_inv_lock (cfg : Cfg) (s s' : State) (l : Label) (h : step cfg s l = some s')
    (hp : s'.pending ≠ s.pending) : procOf l ≠ none ∧ s.mutex = procOf l := by
  cases step_sound h
  -- `pending` is written by `register`, `rxDoneDrop` and `cancel2`, each under its owner guard
  case register i _ hm _ | cancel2 i _ _ _ _ hm _ _ _ => exact ⟨nofun, hm⟩
  case rxDoneDrop hm _ _ => exact ⟨nofun, hm⟩
  case bad _ hp' => exact absurd hp' hp
  all_goals exact absurd rfl hp

theorem C10_inv_lock_owner (cfg : Cfg) (hf : cfg.cancelChecksOwner = true) (s : State) (hr : Reachable cfg s) :
    (s.mutex = some .rx ↔ s.rx.inCS = true) ∧ ∀ i, s.mutex = some (.caller i) ↔ (getC s i).pc.inCS = true :=
  let hi := reach_all cfg hf s hr
  ⟨hi.m.rx, hi.m.c⟩

/-- **C10_cancel_own.** `cancel()` (label `cancel2`) never removes another
call's entry: whatever entry disappears from `pending` belongs to the
cancelling caller. (This is the defect fixed in a066cd7.) -/
theorem C10_cancel_own (cfg : Cfg) (hf : cfg.cancelChecksOwner = true) (s s' : State) (hr : Reachable cfg s)
    (i : Nat) (h : step cfg s (.cancel2 i) = some s') (x r : Nat) (hp : s.pending.get x = some r)
    (hgone : s'.pending.get x ≠ some r) : (getR s r).owner = i := by
  have hw := (reach_all cfg hf s hr).w
  cases step_sound h
  case bad h _ => exact (h.elim hw).elim
  case cancel2Skip => exact absurd hp hgone
  case cancel2 r0 r' w ho _ hpc _ hp' =>
    -- only the entry under `i`'s own transaction id goes, and the owner check made sure it is `i`'s
    rw [FMap.get_erase] at hgone
    split at hgone
    · next hx =>
      subst hx
      obtain rfl : r' = r := Option.some.inj (hp'.symm.trans hp)
      obtain rfl : r' = r0 := by simpa [hf] using ho
      exact (hw.pcreg i r' (by simp [hpc])).2.1
    · exact absurd hp hgone

/-- The configuration of the counterexample: two callers using transaction id 7,
nil matchers, one try each, buffer capacity 1, and the `cancel()` of before
the fix. -/
def cfgOldCancel : Cfg :=
  { caller := fun _ => { xid := 7, matchNil := true, accepts := fun _ => true, retry := 1 },
    cap := 1, cancelChecksOwner := false }

/-- Caller 0 times out and closes its `done`; a datagram makes the loop find
`done` closed and remove the entry; caller 1 registers the same id; caller 0's
`cancel` then closes and removes caller 1's entry; caller 1 receives nil from
the closed channel and returns `(nil, nil)`. -/
def oldCancelTrace : List Label :=
  [.call 0, .lock 0, .register 0, .transmit 0, .timerFire 0, .giveUp 0, .cancel1 0,
   .arrive ⟨7, true, 0⟩, .rxRead, .rxPass, .rxLock, .rxDoneDrop, .rxUnlock,
   .call 1, .lock 1, .register 1, .transmit 1, .lock 0, .cancel2 0,
   .take 1, .accept 1, .cancel1 1, .lock 1, .cancel2 1, .ret 1]

/-- **C10_old_cancel_counterexample.** With the owner check off, `C10_never_nil`
fails: the trace above is enabled step by step and ends with
caller 1 having taken from a closed channel and returned a nil response. The
same label list is NOT enabled with the check on. -/
theorem C10_old_cancel_counterexample :
    (∃ s, run cfgOldCancel init oldCancelTrace = some s ∧ (getC s 1).pc = .returned (.ok none)) ∧
    run { cfgOldCancel with cancelChecksOwner := true } init oldCancelTrace = none := by
  constructor
  · exact ⟨_, rfl, by decide⟩
  · decide

/-! Non-vacuity: a reachable state in which a call has returned a response
(so the hypotheses of `C10_own` / `C10_first` are satisfiable): one caller, a
rejected then an accepted datagram. -/
def cfgTag : Cfg :=
  { caller := fun _ => { xid := 3, matchNil := false, accepts := fun d => d.tag == 1, retry := 2 }, cap := 2 }

def ownTrace : List Label :=
  [.call 0, .lock 0, .register 0, .transmit 0, .arrive ⟨3, true, 0⟩, .arrive ⟨4, true, 1⟩, .arrive ⟨3, false, 1⟩,
   .arrive ⟨3, true, 1⟩, .rxRead, .rxPass, .rxLock, .rxDeliver, .rxUnlock, .take 0, .reject 0,
   .rxRead, .rxPass, .rxLock, .rxUnlock, .rxRead, .rxDrop, .rxRead, .rxPass, .rxLock, .rxDeliver, .rxUnlock,
   .take 0, .accept 0, .cancel1 0, .lock 0, .cancel2 0, .ret 0]

example : ∃ s, Reachable cfgTag s ∧ (getC s 0).pc = .returned (.ok (some ⟨3, ⟨3, true, 1⟩⟩)) :=
  ⟨_, ⟨ownTrace, rfl⟩, by decide⟩

end Dhcp.Client.LTS
